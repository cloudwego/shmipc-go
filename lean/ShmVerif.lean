-- Root of the `ShmVerif` library: regenerated facts, models, proofs, property theorems, ties, driver front ends.
import ShmVerif.Gen.Consts
import ShmVerif.Gen.Skel
import ShmVerif.Model.Callback
import ShmVerif.Model.EventConn
import ShmVerif.Model.Events
import ShmVerif.Model.FreeListC
import ShmVerif.Model.Handshake
import ShmVerif.Model.Layout
import ShmVerif.Model.Lifecycle
import ShmVerif.Model.LinkedBuffer
import ShmVerif.Model.Mux
import ShmVerif.Model.NetL
import ShmVerif.Model.Pipe
import ShmVerif.Model.Pool
import ShmVerif.Model.Proto
import ShmVerif.Model.QueueC
import ShmVerif.Model.ReadWait
import ShmVerif.Model.Restart
import ShmVerif.Model.Wake
import ShmVerif.Proof.Callback
import ShmVerif.Proof.Chain
import ShmVerif.Proof.EventConn
import ShmVerif.Proof.Events
import ShmVerif.Proof.FreeListConc
import ShmVerif.Proof.FreeListGeom
import ShmVerif.Proof.FreeListSeq
import ShmVerif.Proof.LBMem
import ShmVerif.Proof.LBRead
import ShmVerif.Proof.LBWrite
import ShmVerif.Proof.Layout
import ShmVerif.Proof.Lifecycle
import ShmVerif.Proof.Lists
import ShmVerif.Proof.Mux
import ShmVerif.Proof.MuxCons
import ShmVerif.Proof.MuxEos
import ShmVerif.Proof.MuxInv
import ShmVerif.Proof.NetL
import ShmVerif.Proof.Payload
import ShmVerif.Proof.PipeSys
import ShmVerif.Proof.Pool
import ShmVerif.Proof.QueueC
import ShmVerif.Proof.ReadWait
import ShmVerif.Proof.RestartL
import ShmVerif.Proof.RestartM
import ShmVerif.Proof.SlotAcct
import ShmVerif.Proof.SlotSys
import ShmVerif.Proof.Wake
import ShmVerif.Props.C01
import ShmVerif.Props.C02
import ShmVerif.Props.C03
import ShmVerif.Props.C04
import ShmVerif.Props.C05
import ShmVerif.Props.C06
import ShmVerif.Props.C07
import ShmVerif.Props.C08
import ShmVerif.Props.C09
import ShmVerif.Props.C10
import ShmVerif.Props.C11
import ShmVerif.Props.C12
import ShmVerif.Props.C13
import ShmVerif.Props.C14
import ShmVerif.Props.C15
import ShmVerif.Props.C16
import ShmVerif.Props.C16Handover
import ShmVerif.Props.C17
import ShmVerif.Props.C18
import ShmVerif.Props.C19
import ShmVerif.Props.C20
import ShmVerif.Tie.C01
import ShmVerif.Tie.C03
import ShmVerif.Tie.C04
import ShmVerif.Tie.C05
import ShmVerif.Tie.C06
import ShmVerif.Tie.C07
import ShmVerif.Tie.C11
import ShmVerif.Tie.C12
import ShmVerif.Tie.C13
import ShmVerif.Tie.C14
import ShmVerif.Tie.C15
import ShmVerif.Tie.C16
import ShmVerif.Tie.C18
import ShmVerif.Tie.C19
import ShmVerif.Tie.C20
import ShmVerif.Drv.C01
import ShmVerif.Drv.C03
import ShmVerif.Drv.C04
import ShmVerif.Drv.C05
import ShmVerif.Drv.C06
import ShmVerif.Drv.C07
import ShmVerif.Drv.C11
import ShmVerif.Drv.C12
import ShmVerif.Drv.C13
import ShmVerif.Drv.C14
import ShmVerif.Drv.C16
import ShmVerif.Drv.C18
import ShmVerif.Drv.C19
import ShmVerif.Drv.C20

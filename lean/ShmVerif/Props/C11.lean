import ShmVerif.Proof.ReadWait
/-!
  C11 — no stream or session call blocks forever.

  `Reachable s`: the stream after ANY interleaving of reads being started (any minimum size, with or without deadline),
  reader steps (including any choice among the ready branches of its select), the event loop's two-step deliveries of any
  sizes, the peer's close, a local Close from another goroutine and the session's close notification.
  "Blocks forever" is read as: the reader is asleep in its select and no branch of the select is ready.  The theorems
  show that whenever the releasing event has happened a branch IS ready and taking it ends the read (or, for data that
  is still insufficient, re-arms correctly).  Wall-clock bounds are checked on the real code by the scenario monitors.
-/
namespace Props.C11
open ReadWait

def Reachable (s : State) : Prop := ∃ ops, s = run {} ops

theorem reachable_inv {s : State} (h : Reachable s) : Inv s := by
  obtain ⟨ops, rfl⟩ := h; exact inv_run inv_init ops

/-- A read returns when enough data arrives: a reader asleep in its select, with the event loop not in the middle of a
    delivery and enough bytes received (buffered + pending), has the data notification queued — its select is ready —
    and taking that branch ends the read successfully.  (No lost wake-up between pending.add / asyncNotify and the
    reader's re-check.) -/
theorem c11_read_wakes_on_data {s : State} (hr : Reachable s) (m : Nat) (hsel : s.r = .sel m) (hw : s.w = .idle)
    (hdata : m ≤ s.recv + s.pending) : s.token = true ∧ (stepR s .tok).r = .done .ok := by
  have h := reachable_inv hr
  have hshort := h.selShort m (Or.inl hsel)
  have htok : s.token = true := by
    rcases h.noLost (by omega) with h1 | h1
    · rw [hw] at h1; cases h1
    · exact h1
  refine ⟨htok, ?_⟩
  simp [stepR, hsel, htok, hdata]

/-- ... and a wake-up with still too little data puts the reader back to sleep with everything moved and nothing lost -/
theorem c11_spurious_wake_rearms {s : State} (m : Nat) (hsel : s.r = .sel m) (htok : s.token = true)
    (hshort : s.recv + s.pending < m) :
    (stepR s .tok).r = .sel m ∧ (stepR s .tok).recv = s.recv + s.pending ∧ (stepR s .tok).pending = 0 := by
  have : ¬ m ≤ s.recv + s.pending := by omega
  simp [stepR, hsel, htok, this]

/-- A read returns when either end closes the stream or the session dies: whenever the stream has left the open state,
    or the session's close notification fired, a sleeping reader's select is ready on the close channel, and within two
    steps the read has ended. -/
theorem c11_read_wakes_on_close {s : State} (hr : Reachable s) (m : Nat) (hsel : s.r = .sel m)
    (hcl : s.state ≠ .opened ∨ s.closeCh = true) :
    s.closeCh = true ∧ ∃ res, (stepR (stepR s .close) .close).r = .done res := by
  have h := reachable_inv hr
  have hc : s.closeCh = true := by
    rcases hcl with h1 | h1
    · exact h.closedNotified h1
    · exact h1
  refine ⟨hc, ?_⟩
  by_cases hm : m ≤ s.recv + s.pending
  · exact ⟨.ok, by simp [stepR, hsel, hc, hm]⟩
  · by_cases hh : s.state = .half
    · exact ⟨.eos, by simp [stepR, hsel, hc, hm, hh]⟩
    · exact ⟨.closedErr, by simp [stepR, hsel, hc, hm, hh]⟩

/-- the three close events all make the close channel ready -/
theorem c11_closes_notify (s : State) :
    (sessionClose s).closeCh = true ∧ (s.state ≠ .closed → (localClose s).closeCh = true) ∧
    (s.state = .opened → (peerClose s).closeCh = true) := by
  refine ⟨rfl, ?_, ?_⟩
  · intro h; simp [localClose, h]
  · intro h; simp [peerClose, h]

/-- a read never times out unless it has a deadline, and then only through the timer branch -/
theorem c11_timeout_needs_deadline (s : State) (p : Pick) (hnd : s.r ≠ .done .timeout)
    (ht : (stepR s p).r = .done .timeout) : s.deadline = true ∧ p = .timer := by
  unfold stepR at ht
  rcases s with ⟨state, pending, recv, token, closeCh, deadline, r, w, arrived⟩
  cases r with
  | idle => simp at ht
  | done res => simp at ht hnd; exact absurd ht hnd
  | start m =>
    simp only [] at ht
    repeat' split at ht
    all_goals simp at ht
  | chkOpen m | closeChk m => simp only [] at ht; split at ht <;> simp at ht
  | sel m =>
    cases p with
    | tok =>
      simp only [] at ht
      by_cases c0 : token = true
      · by_cases c1 : m ≤ recv + pending <;> simp [c0, c1] at ht
      · simp [c0] at ht
    | close =>
      simp only [] at ht
      by_cases c0 : closeCh = true
      · by_cases c1 : m ≤ recv + pending <;> simp [c0, c1] at ht
      · simp [c0] at ht
    | timer =>
      simp only [] at ht
      by_cases c0 : deadline = true
      · exact ⟨c0, rfl⟩
      · simp [c0] at ht

/-- a read with a deadline returns when the deadline passes: the timer branch of a sleeping reader is always ready -/
theorem c11_deadline_releases (s : State) (m : Nat) (hsel : s.r = .sel m) (hd : s.deadline = true) :
    (stepR s .timer).r = .done .timeout := by
  simp [stepR, hsel, hd]

/-- a successful read has enough data buffered -/
theorem c11_ok_means_enough (s : State) (p : Pick) (m : Nat) (hr : s.r = .start m ∨ s.r = .sel m)
    (hok : (stepR s p).r = .done .ok) : m ≤ (stepR s p).recv := by
  rcases s with ⟨state, pending, recv, token, closeCh, deadline, r, w, arrived⟩
  simp only at hr
  rcases hr with hr | hr <;> subst hr
  · simp only [stepR] at hok ⊢
    by_cases c1 : m ≤ recv + pending
    · simp [c1]
    · exfalso
      repeat' split at hok
      all_goals simp at hok
      all_goals omega
  · cases p with
    | tok =>
      simp only [stepR] at hok ⊢
      by_cases c0 : token = true
      · by_cases c1 : m ≤ recv + pending
        · simp [c0, c1]
        · simp [c0, c1] at hok
      · simp [c0] at hok
    | close =>
      simp only [stepR] at hok ⊢
      by_cases c0 : closeCh = true
      · by_cases c1 : m ≤ recv + pending
        · simp [c0, c1]
        · simp [c0, c1] at hok
      · simp [c0] at hok
    | timer =>
      simp only [stepR] at hok
      by_cases c0 : deadline = true <;> simp [c0] at hok

/-- Flush returns although the queue stays full: the retry loop waits at most ten times, whatever happens, and reports
    success only after a retry that succeeded -/
theorem c11_flush_bounded (ws : List Wake) : (flushFull ws).2 ≤ 10 := by
  have key : ∀ (fuel : Nat) (ws : List Wake) (n : Nat), (flushLoop fuel ws n).2 ≤ n + fuel := by
    intro fuel
    induction fuel with
    | zero => intro ws n; simp [flushLoop]
    | succ f ih =>
      intro ws n
      cases ws with
      | nil => simp [flushLoop]
      | cons w rest =>
        cases w <;> simp only [flushLoop]
        · have := ih rest (n + 1); omega
        all_goals omega
  have := key 10 ws 0
  simpa [flushFull] using this

theorem c11_flush_ok_needs_success (ws : List Wake) (h : (flushFull ws).1 = .ok) : Wake.retryOk ∈ ws := by
  have key : ∀ (fuel : Nat) (ws : List Wake) (n : Nat), (flushLoop fuel ws n).1 = .ok → Wake.retryOk ∈ ws := by
    intro fuel
    induction fuel with
    | zero => intro ws n h; simp [flushLoop] at h
    | succ f ih =>
      intro ws n h
      cases ws with
      | nil => simp [flushLoop] at h
      | cons w rest =>
        cases w <;> simp only [flushLoop] at h
        · exact List.mem_cons_of_mem _ (ih rest (n + 1) h)
        · exact List.mem_cons_self
        · cases h
        · cases h
  exact key 10 ws 0 h

-- the window: the reader found too little, the event loop delivers before the reader reaches its select
example :
    let s := run {} [.read 5 false, .w 3, .r .tok, .w 3, .w 4, .w 4]
    s.r = .sel 5 ∧ s.w = .idle ∧ s.recv = 3 ∧ s.pending = 4 ∧ s.token = true ∧ (stepR s .tok).r = .done .ok := by decide

example : (flushFull (List.replicate 20 .retryFull)) = (.queueFull, 10) := by decide

end Props.C11

import ShmVerif.Proof.PipeSys
/-!
  C06 — a stream is a faithful byte pipe whatever the write and read granularity.

  Proved here (writer half, both transports, reader half, and their composition `c06_pipe`), for every slice configuration, every position of slice boundaries (including
  empty slices in the chain), every mix of shared-memory and heap slices and every sequence of sizes:
    * `c06_reader_refines_bytequeue` : any sequence of ReadBytes / Peek / Discard calls (each asking for at most what is
      buffered) returns exactly what `take`/`drop` on the buffered byte sequence return; Peek consumes nothing; `Len` decreases
      by exactly the bytes consumed.
    * `c06_writer_refines_bytequeue` : any sequence of WriteBytes / WriteByte calls of any sizes, on any well-formed
      allocator state (any size classes, any free lists, exhausted or not, heap fall-back): no call panics, the buffered
      byte sequence (the same `content` the reader half consumes) grows by exactly the written bytes, in order, `Len` by
      their number; slices of other buffers and free slots are never written (`Proof/LBWrite`: allocator invariant
      `Mem.WF`, established by `create_wf` for the state createBufferManager builds).
    * `transport_shm`, `transport_fb` (`Proof/PipeSys`) : Flush + the peer's moveTo carry the buffered byte sequence to the
      peer's receive buffer unchanged, through the slot headers (`done` / readBufferSlice / moveChain) or copied into
      the event; `c06_pipe` composes writer, transport and reader into the statement of the property.
    * `c06_pair_refines_queues` (invariant and step theorem in `Proof/PipeSys`) : a PAIR of streams over one memory, every operation of `LB.POp` on either
      end in any order - WriteBytes, WriteByte, Flush on either transport, readMore, ReadBytes, Peek, Discard, ReadByte,
      ReadString, Read, ReleasePreviousRead, Close - any number of messages composed, in flight and half read at the
      same time in both directions: in every run that completes, each reader call that finds its bytes buffered returns
      the next bytes the peer flushed.
  NOT proved (covered by the lock-step correspondence and the byte-pipe monitor on the real streams only): Reserve,
  ReleaseReadAndReuse, Read with fewer bytes buffered than asked for (it returns a non-empty prefix), slices left empty
  in a chain (Reserve can leave them).
-/
namespace Props.C06
open LB List

inductive ReadOp where
  | readBytes (n : Nat)
  | peek (n : Nat)
  | discard (n : Nat)
  deriving DecidableEq, Repr

/-- the specification: a plain byte queue -/
def specStep (c : List Nat) : ReadOp → List Nat × List Nat
  | .readBytes n => (c.drop n, c.take n)
  | .peek n => (c, c.take n)
  | .discard n => (c.drop n, [])

def specRun (c : List Nat) : List ReadOp → List Nat × List (List Nat)
  | [] => (c, [])
  | op :: r => let (c1, o) := specStep c op; let (c2, os) := specRun c1 r; (c2, o :: os)

/-- the implementation model: linkedBuffer reader operations over shared memory `m` -/
def implStep (m : Mem) (l : LBuf) : ReadOp → Option (Mem × LBuf × List Nat)
  | .readBytes n => l.readBytes m n
  | .peek n => (l.peekBytes m n).map (fun (l', d) => (m, l', d))
  | .discard n => (l.discard m n).map (fun (m', l', _) => (m', l', []))

def implRun (m : Mem) (l : LBuf) : List ReadOp → Option (Mem × LBuf × List (List Nat))
  | [] => some (m, l, [])
  | op :: r =>
    match implStep m l op with
    | none => none
    | some (m1, l1, o) =>
      match implRun m1 l1 r with
      | none => none
      | some (m2, l2, os) => some (m2, l2, o :: os)

def opSize : ReadOp → Nat
  | .readBytes n => n | .peek n => n | .discard n => n

/-- every operation asks for at least one and at most the buffered number of bytes (otherwise the call blocks in readMore) -/
def Enabled : List Nat → List ReadOp → Prop
  | _, [] => True
  | c, op :: r => 0 < opSize op ∧ opSize op ≤ c.length ∧ Enabled (specStep c op).1 r

/-- one reader call against one step of the byte queue -/
theorem implStep_spec (m : Mem) (l : LBuf) (op : ReadOp) (hwf : SlicesWF m l.sl) (hlen : l.len = (content m l.sl).length)
    (hpos : 0 < opSize op) (hle : opSize op ≤ (content m l.sl).length) :
    ∃ m1 l1 o, implStep m l op = some (m1, l1, o) ∧ (content m1 l1.sl, o) = specStep (content m l.sl) op ∧
      l1.len = (content m1 l1.sl).length ∧ SlicesWF m1 l1.sl ∧ ∀ j, (m1.slot j).data = (m.slot j).data := by
  cases op with
  | readBytes n =>
    obtain ⟨m1, l1, d, e1, e2, e3, e4, e5, e6⟩ := readBytes_spec m l n hwf hpos hle
    exact ⟨m1, l1, d, e1, by rw [e2, e3]; rfl, by rw [e5, e3, length_drop, hlen], e4, e6⟩
  | peek n =>
    obtain ⟨l1, d, e1, e2, e3, e4⟩ := peek_spec m l n hwf hpos hle
    exact ⟨m, l1, d, by simp only [implStep, e1, Option.map_some], by rw [e2, e3]; rfl, by rw [e4, e3, hlen], e3 ▸ hwf,
      fun _ => rfl⟩
  | discard n =>
    obtain ⟨m1, l1, e1, e3, e4, e5, e6⟩ := discard_spec m l n hwf hpos hle
    exact ⟨m1, l1, [], by simp only [implStep, e1, Option.map_some], by rw [e3]; rfl, by rw [e5, e3, length_drop, hlen], e4, e6⟩

theorem c06_reader_refines_bytequeue (ops : List ReadOp) : ∀ (m : Mem) (l : LBuf),
    SlicesWF m l.sl → l.len = (content m l.sl).length → Enabled (content m l.sl) ops →
    ∃ m' l' outs, implRun m l ops = some (m', l', outs) ∧
      outs = (specRun (content m l.sl) ops).2 ∧ content m' l'.sl = (specRun (content m l.sl) ops).1 ∧
      l'.len = (content m' l'.sl).length ∧ SlicesWF m' l'.sl ∧ (∀ j, (m'.slot j).data = (m.slot j).data) := by
  induction ops with
  | nil => intro m l hwf hlen _; exact ⟨m, l, [], rfl, rfl, rfl, hlen, hwf, fun _ => rfl⟩
  | cons op r ih =>
    intro m l hwf hlen ⟨hpos, hle, hrest⟩
    obtain ⟨m1, l1, o, e1, e2, hlen1, hwf1, hd1⟩ := implStep_spec m l op hwf hlen hpos hle
    have ec : content m1 l1.sl = (specStep (content m l.sl) op).1 := congrArg Prod.fst e2
    have eo : o = (specStep (content m l.sl) op).2 := congrArg Prod.snd e2
    obtain ⟨m2, l2, os, g1, g2, g3, g4, g5, g6⟩ := ih m1 l1 hwf1 hlen1 (ec ▸ hrest)
    exact ⟨m2, l2, o :: os, by simp only [implRun, e1, g1], by simp only [specRun]; rw [g2, ec, eo],
      by simp only [specRun]; rw [g3, ec], g4, g5, fun j => (g6 j).trans (hd1 j)⟩

/-- Peek consumes nothing (special case, stated outright) -/
theorem c06_peek_consumes_nothing (m : Mem) (l : LBuf) (n : Nat) (hwf : SlicesWF m l.sl)
    (hpos : 0 < n) (hle : n ≤ (content m l.sl).length) :
    ∃ l' d, l.peekBytes m n = some (l', d) ∧ d = (content m l.sl).take n ∧ content m l'.sl = content m l.sl ∧ l'.len = l.len := by
  obtain ⟨l1, d, e1, e2, e3, e4⟩ := peek_spec m l n hwf hpos hle
  exact ⟨l1, d, e1, e2, by rw [e3], e4⟩

-- non-vacuity: a three-slice chain (a 4-byte shared slot, an empty heap slice, a 3-byte heap slice) read across boundaries
example :
    let m : Mem := { slots := [{ cap := 4, cls := 0, data := [1, 2, 3, 4] }], free := [[]], caps := [4] }
    let l : LBuf := { sl := [{ slot := some 0, cap := 4, wi := 4 }, { heap := [], cap := 0 }, { heap := [5, 6, 7], cap := 3, wi := 3 }], len := 7 }
    (implRun m l [.peek 6, .readBytes 3, .discard 2, .readBytes 2]).map (·.2.2) = some [[1, 2, 3, 4, 5, 6], [1, 2, 3], [], [6, 7]] := by
  decide

inductive WriteOp where
  | bytes (d : List Nat)     -- BufferWriter.WriteBytes / WriteString
  | byte (b : Nat)           -- BufferWriter.WriteByte
  deriving DecidableEq, Repr

/-- the specification: the written bytes, in call order -/
def wspec : List WriteOp → List Nat
  | [] => []
  | .bytes d :: r => d ++ wspec r
  | .byte b :: r => b :: wspec r

/-- the implementation model: linkedBuffer writer operations over shared memory `m` (allocating slices of any size class,
    spilling to heap slices when the memory is exhausted) -/
def wimpl (m : Mem) (l : LBuf) : List WriteOp → Option (Mem × LBuf)
  | [] => some (m, l)
  | .bytes d :: r => match l.writeBytes m d with | none => none | some (m1, l1) => wimpl m1 l1 r
  | .byte b :: r => match l.writeByte m b with | none => none | some (m1, l1) => wimpl m1 l1 r

/-- Any sequence of WriteBytes / WriteByte calls, with any sizes, on any well-formed allocator state (any number of size
    classes, any free lists, exhausted or not): no call panics, and the buffered byte sequence (the same `content` the
    reader half consumes) grows by exactly the written bytes, in order; `Len` grows by their number. -/
theorem c06_writer_refines_bytequeue (ops : List WriteOp) : ∀ (m : Mem) (l : LBuf), m.WF → WBuf m l →
    ∃ m' l', wimpl m l ops = some (m', l') ∧ content m' l'.sl = content m l.sl ++ wspec ops ∧
      l'.len = l.len + (wspec ops).length ∧ m'.WF ∧ WBuf m' l' ∧ Frame m l m' l' := by
  induction ops with
  | nil => intro m l hw hb; exact ⟨m, l, rfl, by simp [wspec], by simp [wspec], hw, hb, Frame.refl m l⟩
  | cons op r ih =>
    intro m l hw hb
    cases op with
    | bytes d =>
      obtain ⟨m1, l1, e1, hw1, hb1, hc1, hl1, hf1⟩ := writeBytes_spec m l d hw hb
      obtain ⟨m', l', e', hc, hl, hw', hb', hfr⟩ := ih m1 l1 hw1 hb1
      refine ⟨m', l', by simp only [wimpl, e1, e'], ?_, ?_, hw', hb', hf1.trans hfr⟩
      · rw [hc, hc1]; simp [wspec, append_assoc]
      · rw [hl, hl1]; simp only [wspec, length_append]; omega
    | byte b =>
      obtain ⟨m1, l1, e1, hw1, hb1, hc1, hl1, hf1⟩ := writeByte_spec m l b hw hb
      obtain ⟨m', l', e', hc, hl, hw', hb', hfr⟩ := ih m1 l1 hw1 hb1
      refine ⟨m', l', by simp only [wimpl, e1, e'], ?_, ?_, hw', hb', hf1.trans hfr⟩
      · rw [hc, hc1]; simp [wspec, append_assoc]
      · rw [hl, hl1]; simp only [wspec, length_cons]; omega

-- non-vacuity: two size classes (4-byte and 8-byte slices), writes that cross slice boundaries, exhaust the shared
-- memory and spill into a heap slice; the composed bytes are then read back across the same boundaries
example :
    let m := Mem.create [(4, 3), (8, 2)]
    (wimpl m {} [.bytes [1, 2, 3], .byte 4, .bytes [5, 6, 7, 8, 9, 10, 11, 12, 13, 14, 15, 16, 17]]).map
      (fun (m', l') => (content m' l'.sl, l'.len, l'.fromShm, (l'.readBytes m' 17).map (·.2.2))) =
    some ([1, 2, 3, 4, 5, 6, 7, 8, 9, 10, 11, 12, 13, 14, 15, 16, 17], 17, false,
          some [1, 2, 3, 4, 5, 6, 7, 8, 9, 10, 11, 12, 13, 14, 15, 16, 17]) := by
  decide

/-- **A stream is a faithful byte pipe.** Starting from the memory createBufferManager lays out (any size classes), any
    sequence of WriteBytes / WriteByte calls followed by Flush hands the written bytes to the peer - through shared memory
    (the chain `done` writes into the slot headers, re-read by the peer's `moveTo`) when every slice could be allocated
    there, through the connection (payload copied into the event) otherwise - and any enabled sequence of ReadBytes / Peek
    / Discard calls on the peer returns exactly what a plain byte queue holding the written bytes returns, whatever the
    write sizes, the read sizes and the slice boundaries. -/
theorem c06_pipe (classes : List (Nat × Nat)) (hpos : ∀ c ∈ classes, 0 < c.1) (ops : List WriteOp) (rops : List ReadOp)
    (m' : Mem) (l' : LBuf) (hwr : wimpl (Mem.create classes) {} ops = some (m', l'))
    (hne : wspec ops ≠ []) (hen : Enabled (wspec ops) rops) :
    ∃ m1 x' peer' peer'' res, flush m' { send := l' } {} = (m1, x', peer', res) ∧ (res = .shm ∨ res = .fallback) ∧
      moveTo m1 peer' = some (m1, peer'') ∧
      ∃ m2 r2 outs, implRun m1 peer''.recv rops = some (m2, r2, outs) ∧ outs = (specRun (wspec ops) rops).2 ∧
        content m2 r2.sl = (specRun (wspec ops) rops).1 := by
  obtain ⟨m'', l'', e, hc, hl, hw', hb', _⟩ := c06_writer_refines_bytequeue ops (Mem.create classes) {} (create_wf classes hpos)
    (Or.inl ⟨rfl, rfl⟩)
  rw [hwr] at e
  simp only [Option.some.injEq, Prod.mk.injEq] at e
  obtain ⟨rfl, rfl⟩ := e
  have hc' : content m' l'.sl = wspec ops := by simpa [content] using hc
  have hlen : l'.len ≠ 0 := by
    have : 0 < (wspec ops).length := length_pos_iff.mpr hne
    simp only at hl; omega
  rcases hb' with ⟨_, hsl⟩ | ⟨wi, hi, ht, hnz⟩
  · rw [hsl] at hc'; exact absurd hc'.symm (by simpa [content] using hne)
  · -- what the reader half needs, for either transport
    have fin : ∀ (m1 : Mem) (peer'' : StreamM), content m1 peer''.recv.sl = wspec ops → SlicesWF m1 peer''.recv.sl →
        peer''.recv.len = (content m1 peer''.recv.sl).length →
        ∃ m2 r2 outs, implRun m1 peer''.recv rops = some (m2, r2, outs) ∧ outs = (specRun (wspec ops) rops).2 ∧
          content m2 r2.sl = (specRun (wspec ops) rops).1 := by
      intro m1 peer'' h1 h2 h3
      obtain ⟨m2, r2, outs, g1, g2, g3, _, _, _⟩ := c06_reader_refines_bytequeue rops m1 peer''.recv h2 h3 (by rw [h1]; exact hen)
      exact ⟨m2, r2, outs, g1, by rw [g2, h1], by rw [g3, h1]⟩
    have hempty : ∀ m1 : Mem, content m1 ({} : StreamM).recv.sl = [] := fun _ => rfl
    by_cases hf : l'.fromShm = true
    · obtain ⟨m1, x', peer', peer'', e1, e2, e3, _, e5, e6, _⟩ :=
        transport_shm m' { send := l' } {} wi hw' hi ht hnz hlen rfl hf rfl
      refine ⟨m1, x', peer', peer'', .shm, e1, Or.inl rfl, e2, ?_⟩
      exact fin m1 peer'' (by rw [e3, hempty, nil_append]; exact hc') (e5 (fun _ h => absurd h (by simp))) (e6 rfl)
    · obtain ⟨m1, x', peer', peer'', e1, e2, e3, _, e5, e6, _, _⟩ :=
        transport_fb m' { send := l' } {} wi hi ht hlen (Or.inr (by simpa using hf)) rfl
      refine ⟨m1, x', peer', peer'', .fallback, e1, Or.inr rfl, e2, ?_⟩
      exact fin m1 peer'' (by rw [e3, hempty, nil_append]; exact hc') (e5 (fun _ h => absurd h (by simp))) (e6 rfl)

-- non-vacuity, shared-memory transport: three writes across two size classes, flushed, read back in other sizes
example :
    let m := Mem.create [(4, 3), (8, 3)]
    (wimpl m {} [.bytes [1, 2, 3], .byte 4, .bytes [5, 6, 7, 8, 9, 10]]).map (fun (m', l') =>
      let (m1, _, peer', res) := flush m' { send := l' } {}
      (res, (moveTo m1 peer').map (fun (m2, p) => (implRun m2 p.recv [.peek 2, .readBytes 7, .discard 1, .readBytes 2]).map (·.2.2)))) =
    some (.shm, some (some [[1, 2], [1, 2, 3, 4, 5, 6, 7], [], [9, 10]])) := by
  decide

open LB in
/-- **A pair of streams refines two byte queues.** From the memory createBufferManager lays out (any size classes): for
    EVERY sequence of WriteBytes, WriteByte, Flush (shared-memory transport, or fall-back once the allocator ran dry - the
    stream then stays in fall-back), readMore, ReadBytes, ReadByte, ReadString, Read, Peek, Discard, ReleasePreviousRead and
    Close (which empties the closing end's own buffers and leaves the other direction's flushed bytes alone) calls on either end, in any
    order - any number of messages composed, in flight and half read at the same time, in both directions - in which every
    reader call finds its bytes buffered (what Stream.readMore waits for): each reader call returns exactly the next
    bytes the peer flushed, in flush order; nothing is lost, duplicated, reordered or leaks from the other direction; and at
    the end the receive buffer plus what is in flight is exactly what was flushed and not yet consumed, the send buffer
    exactly what was written and not yet flushed. -/
theorem c06_pair_refines_queues (classes : List (Nat × Nat)) (hpos : ∀ c ∈ classes, 0 < c.1) (ops : List POp)
    (s : PSys) (outs : List (List Nat)) (hadm : Admissible { m := Mem.create classes } ops)
    (hrun : prunOut { m := Mem.create classes } ops = some (s, outs)) :
    outs = (qrunOut {} ops).2 ∧
    content s.m s.b.recv.sl ++ flightBytes s.m s.b.pending = (qrunOut {} ops).1.ab.flushed ∧
    content s.m s.a.send.sl = (qrunOut {} ops).1.ab.composed ∧
    content s.m s.a.recv.sl ++ flightBytes s.m s.a.pending = (qrunOut {} ops).1.ba.flushed ∧
    content s.m s.b.send.sl = (qrunOut {} ops).1.ba.composed := by
  obtain ⟨h, ho⟩ := pq_run ops _ s {} outs (PQS.init classes hpos) hadm hrun
  exact ⟨ho, h.xy.fl, h.xy.co, h.yx.fl, h.yx.co⟩

open LB in
/-- writer calls never fail and never need a guard: only reader calls are conditioned (on their bytes being buffered) -/
theorem c06_pair_writer_total {N : Nat} {s : PSys} {q : QSys} (h : PQS N s q) (x : Bool) (d : List Nat) (b : Nat) :
    (pstep s (.write x d)).isSome = true ∧ (pstep s (.writeByte x b)).isSome = true ∧ (pstep s (.more x)).isSome = true := by
  obtain ⟨hx, _, _⟩ := h.side x
  refine ⟨?_, ?_, ?_⟩
  · obtain ⟨m1, l1, e1, _⟩ := writeBytes_spec s.m (s.get x).send d hx.pi.wf hx.pi.x.wbuf
    simp [pstep, e1]
  · obtain ⟨m1, l1, e1, _⟩ := writeByte_spec s.m (s.get x).send b hx.pi.wf hx.pi.x.wbuf
    simp [pstep, e1]
  · obtain ⟨X', e1, _⟩ := hx.moreStep
    simp [pstep, e1]

-- non-vacuity: both directions interleaved, three messages from a (13 bytes over two slices, 3 bytes, 1 byte), one from b;
-- a reads b's message while its own are in flight; b reads across message boundaries
example :
    let s0 : LB.PSys := { m := LB.Mem.create [(4, 4), (8, 4)] }
    let ops : List LB.POp := [.write false [1, 2, 3, 4, 5, 6, 7, 8, 9, 10, 11, 12, 13], .flush false, .write true [50, 51],
      .write false [21, 22, 23], .flush false, .flush true, .more true, .readBytes true 9, .writeByte false 31, .flush false,
      .more false, .peek false 2, .readBytes false 2, .more true, .readBytes true 8, .release true]
    (LB.prunOut s0 ops).map (·.2) = some (LB.qrunOut {} ops).2 ∧
    (LB.qrunOut {} ops).2 = [[], [], [], [], [], [], [], [1, 2, 3, 4, 5, 6, 7, 8, 9], [], [], [], [50, 51], [50, 51], [],
      [10, 11, 12, 13, 21, 22, 23, 31], []] := by
  decide

-- ReadString and Read (with the requested bytes buffered) across slice and message boundaries
example :
    let s0 : LB.PSys := { m := LB.Mem.create [(4, 6)] }
    let ops : List LB.POp := [.write false [1, 2, 3, 4, 5, 6], .flush false, .write false [7, 8, 9], .flush false, .more true,
      .readString true 5, .readInto true 3, .readBytes true 1]
    (LB.prunOut s0 ops).map (·.2) = some (LB.qrunOut {} ops).2 ∧
    (LB.qrunOut {} ops).2 = [[], [], [], [], [], [1, 2, 3, 4, 5], [6, 7, 8], [9]] := by
  decide

-- ReadByte across a slice boundary: the exhausted front slice is dropped and the byte comes from the next one
example :
    let s0 : LB.PSys := { m := LB.Mem.create [(4, 6)] }
    let ops : List LB.POp := [.write false [1, 2, 3, 4, 5, 6], .flush false, .more true, .readBytes true 3, .readByte true,
      .readByte true, .readByte true]
    (LB.prunOut s0 ops).map (·.2) = some (LB.qrunOut {} ops).2 ∧
    (LB.qrunOut {} ops).2 = [[], [], [], [1, 2, 3], [4], [5], [6]] := by
  decide

-- F24 in the model: an empty slice (a fall-back event with an empty payload) between two data slices; ReadByte finds the byte
example :
    let m : LB.Mem := LB.Mem.create [(4, 2)]
    let l : LB.LBuf := { sl := [{ heap := [65], cap := 1, wi := 1 }, { heap := [], cap := 0, wi := 0 }, { heap := [66], cap := 1, wi := 1 }], len := 2 }
    ((l.readByte m).bind (fun (m1, l1, b1) => (l1.readByte m1).map (fun (_, l2, b2) => (b1, b2, l2.len)))) = some (65, 66, 0) := by
  decide

-- Close in the middle: b closes while a message is in flight towards it and it has composed bytes; a's own unread data stays
example :
    let s0 : LB.PSys := { m := LB.Mem.create [(4, 4), (8, 4)] }
    let ops : List LB.POp := [.write true [9, 9], .flush true, .write false [1, 2, 3, 4, 5], .flush false, .write true [7],
      .close true, .more false, .readBytes false 2, .write false [6], .flush false, .more true, .readBytes true 1]
    (LB.prunOut s0 ops).map (·.2) = some (LB.qrunOut {} ops).2 ∧
    (LB.qrunOut {} ops).2 = [[], [], [], [], [], [], [], [9, 9], [], [], [], [6]] := by
  decide

-- ... and with the allocator exhausted: the second message spills into a heap slice and travels by the connection, the
-- stream stays in fall-back for the third; order is kept across the switch of transport
example :
    let s0 : LB.PSys := { m := LB.Mem.create [(4, 3)] }
    let ops : List LB.POp := [.write false [1, 2, 3], .flush false, .write false [4, 5, 6, 7, 8, 9, 10, 11, 12, 13], .flush false,
      .write false [14], .flush false, .more true, .readBytes true 14]
    (LB.prunOut s0 ops).map (fun r => (r.2, r.1.a.inFallback)) = some ((LB.qrunOut {} ops).2, true) ∧
    ((LB.qrunOut {} ops).2.getLast? = some [1, 2, 3, 4, 5, 6, 7, 8, 9, 10, 11, 12, 13, 14]) := by
  decide

end Props.C06

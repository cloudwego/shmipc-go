import ShmVerif.Proof.MuxCons
import ShmVerif.Props.C08
/-!
  C09 — all shared memory comes back once streams are finished.

  PARTIAL proof.  At message level (`Mux`, tied to the real sessions by the shared two-session harness) every exit path that
  ends a message's life releases it: a Flush that fails on a closed stream or on a full queue releases the message at once;
  a local Close releases everything buffered on the stream; data arriving for a client stream that no longer exists, or for
  a stream that is already closed, is released on arrival.  At buffer level (`LinkedBuffer`): ReleasePreviousRead empties the
  parked list (C08), `recycle` (used by Close) returns parked and listed slices alike (repaired code).
  Global conservation at message level (`c09_conservation`): for every operation sequence, every message ever flushed is,
  at all times, in exactly one of: a send queue, a control connection, one stream's buffer, or released — never lost,
  never duplicated; hence at quiescence everything is released (`c09_quiescent_all_released`).
  Slot level (`Proof/SlotAcct`, `Proof/SlotSys`; system `LB.PSys` / `LB.pstep` of `Model/Pipe`: two streams - send buffer,
  receive buffer, pending list each - over one memory, operations WriteBytes, WriteByte, Flush (both transports), readMore,
  ReadBytes, Peek, Discard, ReadByte, ReadString, Read, ReleasePreviousRead, Close, in ANY order, ANY number of times, for
  ANY size classes): at every moment every slot of the memory is in exactly one place - a free list, a slice listed or
  parked by one of the four buffers, or the header chain of exactly one message in flight (`c09_slot_partition`); hence once
  both streams are closed, or have consumed and released everything, every slot is back in a free list
  (`c09_all_slots_back_after_close`, `c09_quiescent_all_slots_free`).  The per-buffer accounting (`c09_buffer_ops_conserve_slots`)
  needs no functional invariant at all: it holds from any state whose slices point at real slots.
  Outside these theorems: Reserve and ReleaseReadAndReuse (not in `POp`), the allocator's own concurrency (C01/C02), and
  streams of more than one pair sharing the memory (the theorem is stated for one pair; other holders appear only in the
  per-buffer form).
-/
namespace Props.C09
open Mux List

/-- Flush on a stream that is not open releases the message immediately. -/
theorem c09_flush_closed_releases (s : Sys) (x : Side) (i : Nat) (heap : Bool) (st : MStream)
    (h : (s.me x).find i = some st) (hst : st.state ≠ .opened) :
    (flush s x i heap).1.retired = s.retired ++ [s.fresh] ∧ (flush s x i heap).1.ch = s.ch := by
  rw [flush_not_open heap h hst]; exact ⟨rfl, rfl⟩

/-- Flush that finds the queue full (write deadline passed) releases the message immediately. -/
theorem c09_queue_full_releases (s : Sys) (x : Side) (i : Nat) (st : MStream)
    (h : (s.me x).find i = some st) (ho : st.state = .opened) (hfb : st.inFb = false)
    (hfull : (s.ch x).q.length ≥ s.qcap) :
    (flush s x i false).2 = .timeout ∧ (flush s x i false).1.retired = s.retired ++ [s.fresh] ∧ (flush s x i false).1.ch = s.ch := by
  unfold flush; rw [h]
  simp only [ho, ne_eq, not_true_eq_false, if_false, hfb, Bool.false_eq_true, or_self, hfull, if_true]
  exact ⟨trivial, trivial, trivial⟩

/-- A local Close releases everything that was buffered on the stream (pending and unread). -/
theorem c09_close_releases_buffered (s : Sys) (x : Side) (i : Nat) (st : MStream)
    (h : (s.me x).find i = some st) (hne : st.state ≠ .closed) :
    (closeStream s x i).1.retired = s.retired ++ st.buffered :=
  (closeStream_local h hne).2.1

/-- Data arriving at a client for a stream that no longer exists is released on arrival, not offered. -/
theorem c09_unknown_stream_releases (s : Sys) (y : Side) (i m : Nat) (hcl : (s.me y).isClient = true)
    (hreg : (s.me y).registered i = false) :
    (offer s y i m).retired = s.retired ++ [m] ∧ (offer s y i m).got = s.got := by
  unfold offer getStream
  simp only [hreg, Bool.false_eq_true, if_false, hcl, Bool.not_true, false_and]
  exact ⟨rfl, rfl⟩

/-- buffer level: ReleasePreviousRead and (repaired) recycle leave nothing parked -/
theorem c09_release_empties_parked (m : LB.Mem) (l : LB.LBuf) : (l.release m).2.pinned = [] :=
  Props.C08.c08_release_returns m l

theorem c09_recycle_empties_buffer (m : LB.Mem) (l : LB.LBuf) : (l.recycle m).2.pinned = [] ∧ (l.recycle m).2.sl = [] := by
  unfold LB.LBuf.recycle; exact ⟨rfl, rfl⟩

def Reachable (s : Sys) : Prop := ∃ ops, s = run {} ops

/-- every message ever flushed (tokens `0 … fresh-1`) is in exactly one place, every other token nowhere -/
theorem c09_conservation {s : Sys} (hr : Reachable s) (t : Nat) : occ s t = if t < s.fresh then 1 else 0 := by
  obtain ⟨ops, rfl⟩ := hr
  exact (cinv_run ops _ cinv_init).cons t

/-- nothing is duplicated: no message is released twice, queued twice, or both buffered and released -/
theorem c09_no_duplication {s : Sys} (hr : Reachable s) (t : Nat) :
    s.retired.count t ≤ 1 ∧ (bufAll (s.me .a)).count t + (bufAll (s.me .b)).count t + s.retired.count t ≤ 1 := by
  have := c09_conservation hr t
  unfold occ at this
  split at this <;> omega

/-- quiescence: with both queues and both connections empty and no stream buffering anything, every message ever
    flushed has been released exactly once -/
theorem c09_quiescent_all_released {s : Sys} (hr : Reachable s)
    (hq : (s.ch .a).q = [] ∧ (s.ch .b).q = []) (hk : (s.ch .a).k = [] ∧ (s.ch .b).k = [])
    (hb : bufAll (s.me .a) = [] ∧ bufAll (s.me .b) = []) (t : Nat) (ht : t < s.fresh) : s.retired.count t = 1 := by
  have := c09_conservation hr t
  simp [occ, hq.1, hq.2, hk.1, hk.2, hb.1, hb.2, qTokens, kTokens, ht] at this
  exact this

/-- stream ids are unique per end, and a stream that left the table buffers nothing (what makes `find` / `upd` exact) -/
theorem c09_ids_unique {s : Sys} (hr : Reachable s) (x : Side) : Uniq (s.me x) ∧ Clean (s.me x) := by
  obtain ⟨ops, rfl⟩ := hr
  have h := (cinv_run ops _ cinv_init).ends x
  exact ⟨h.uniq, h.clean⟩

-- non-vacuity: two messages flushed, one delivered and consumed, one still queued
example :
    let s := run {} [.open_ .a, .flush .a 2 false, .deliver .b, .consume .b 2, .flush .a 2 false]
    s.fresh = 2 ∧ s.retired = [0] ∧ qTokens (s.ch .a).q = [1] ∧ occ s 0 = 1 ∧ occ s 1 = 1 ∧ occ s 2 = 0 := by decide

open LB in
/-- every place a slot can be in: the free lists, the four buffers, the two pending lists -/
def places (s : LB.PSys) : List Nat := s.m.free.flatten ++ LB.heldSt s.m s.a ++ LB.heldSt s.m s.b

open LB in
/-- **Slot conservation for a stream pair.** From the memory createBufferManager lays out (any size classes), after any
    sequence of stream operations on either end (any the implementation completes without a panic): the free lists, the
    slices of the two send and the two receive buffers (listed or parked) and the header chains of the messages in flight
    together hold every slot of the memory exactly once. -/
theorem c09_slot_partition (classes : List (Nat × Nat)) (hpos : ∀ c ∈ classes, 0 < c.1) (ops : List POp) (s : PSys)
    (h : prun { m := Mem.create classes } ops = some s) :
    s.m.slots.length = (Mem.create classes).slots.length ∧ (places s).Perm (List.range s.m.slots.length) := by
  have inv : PInv (Mem.create classes).slots.length s := prun_inv ops { m := Mem.create classes } s (PI.init classes hpos) h
  refine ⟨inv.len, ?_⟩
  rw [perm_iff_count]
  intro j
  have := inv.part j
  unfold fc at this
  simp only [places, count_append]
  rw [this, count_range]

open LB in
/-- Quiescence: when no buffer lists or parks a slice and nothing is in flight, every slot is in a free list. -/
theorem c09_quiescent_all_slots_free (classes : List (Nat × Nat)) (hpos : ∀ c ∈ classes, 0 < c.1) (ops : List POp) (s : PSys)
    (h : prun { m := Mem.create classes } ops = some s)
    (ha : heldSt s.m s.a = []) (hb : heldSt s.m s.b = []) :
    s.m.free.flatten.Perm (List.range (Mem.create classes).slots.length) := by
  obtain ⟨hl, hp⟩ := c09_slot_partition classes hpos ops s h
  simp only [places, ha, hb, append_nil] at hp
  rw [← hl]; exact hp

open LB in
/-- Closing both streams gives everything back, whatever was buffered, parked or in flight. -/
theorem c09_all_slots_back_after_close (classes : List (Nat × Nat)) (hpos : ∀ c ∈ classes, 0 < c.1) (ops : List POp) (s : PSys)
    (h : prun { m := Mem.create classes } (ops ++ [.close false, .close true]) = some s) :
    s.m.free.flatten.Perm (List.range (Mem.create classes).slots.length) := by
  -- the last two operations leave both streams empty
  have hs : heldSt s.m s.a = [] ∧ heldSt s.m s.b = [] := by
    rw [prun_append] at h
    cases h1 : prun { m := Mem.create classes } ops with
    | none => rw [h1] at h; cases h
    | some s1 => rw [h1] at h; cases h; exact ⟨rfl, rfl⟩
  exact c09_quiescent_all_slots_free classes hpos _ s h hs.1 hs.2

open LB in
/-- One buffer, any state whose slices point at real slots: every operation keeps "free + held" (as multisets). -/
theorem c09_buffer_ops_conserve_slots (m : Mem) (l : LBuf) (hs : Shape m) (ho : BufOK m l) :
    (∀ d m' l', l.writeBytes m d = some (m', l') → (m'.free.flatten ++ heldL l').Perm (m.free.flatten ++ heldL l)) ∧
    (∀ b m' l', l.writeByte m b = some (m', l') → (m'.free.flatten ++ heldL l').Perm (m.free.flatten ++ heldL l)) ∧
    (∀ m' l', l.done m = some (m', l') → (m'.free.flatten ++ heldL l').Perm (m.free.flatten ++ heldL l)) ∧
    (∀ n m' l' d, l.readBytes m n = some (m', l', d) → (m'.free.flatten ++ heldL l').Perm (m.free.flatten ++ heldL l)) ∧
    (∀ n m' l' k, l.discard m n = some (m', l', k) → (m'.free.flatten ++ heldL l').Perm (m.free.flatten ++ heldL l)) ∧
    (∀ n m' l' d, l.readString m n = some (m', l', d) → (m'.free.flatten ++ heldL l').Perm (m.free.flatten ++ heldL l)) ∧
    (∀ n m' l' d, l.readInto m n = some (m', l', d) → (m'.free.flatten ++ heldL l').Perm (m.free.flatten ++ heldL l)) ∧
    (∀ m' l' b, l.readByte m = some (m', l', b) → (m'.free.flatten ++ heldL l').Perm (m.free.flatten ++ heldL l)) ∧
    ((l.release m).1.free.flatten ++ heldL (l.release m).2).Perm (m.free.flatten ++ heldL l) ∧
    ((l.recycle m).1.free.flatten).Perm (m.free.flatten ++ heldL l) := by
  have cv : ∀ {m' : Mem} {l' : LBuf}, Acct m l m' l' → (m'.free.flatten ++ heldL l').Perm (m.free.flatten ++ heldL l) := by
    intro m' l' a
    rw [perm_iff_count]
    intro j
    have := a.bal j
    unfold fc at this
    simp only [count_append]; exact this
  refine ⟨fun d m' l' e => cv (writeBytes_acct hs ho e), fun b m' l' e => cv (writeByte_acct hs ho e),
    fun m' l' e => cv (done_acct hs ho e), fun n m' l' d e => cv (readBytes_acct hs ho e).toAcct,
    fun n m' l' k e => cv (discard_acct hs ho e).toAcct, fun n m' l' d e => cv (readString_acct hs ho e).toAcct,
    fun n m' l' d e => cv (readInto_acct hs ho e).toAcct, fun m' l' b e => cv (readByte_acct hs ho e).toAcct,
    cv (release_acct hs ho).toAcct, ?_⟩
  obtain ⟨a, hh⟩ := lrecycle_acct hs ho
  have := cv a.toAcct
  rw [hh, append_nil] at this
  exact this

-- non-vacuity: two size classes; a 13-byte message through shared memory (two 8-byte slices), read past the first slice;
-- a second message still in flight; a third one composed but not flushed: 8 slots - 5 free, one in a's send buffer, one in
-- b's receive buffer, one in flight - then everything back
example :
    let s0 : LB.PSys := { m := LB.Mem.create [(4, 4), (8, 4)] }
    (LB.prun s0 [.write false [1, 2, 3, 4, 5, 6, 7, 8, 9, 10, 11, 12, 13], .flush false, .more true, .readBytes true 9,
        .write false [21, 22, 23], .flush false, .writeByte false 31]).map
      (fun s => (s.m.free.map (·.length), LB.heldL s.a.send, LB.heldL s.b.recv, LB.flight s.m s.b.pending)) =
    some ([2, 3], [1], [5], [0]) := by
  decide

example :
    let s0 : LB.PSys := { m := LB.Mem.create [(4, 4), (8, 4)] }
    (LB.prun s0 [.write false [1, 2, 3, 4, 5, 6, 7, 8, 9, 10, 11, 12, 13], .flush false, .more true, .readBytes true 9,
        .write false [21, 22, 23], .flush false, .writeByte false 31, .close false, .close true]).map
      (fun s => (s.m.free.map (·.length), places s |>.length)) = some ([4, 4], 8) := by
  decide

end Props.C09

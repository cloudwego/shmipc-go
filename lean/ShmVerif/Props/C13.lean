import ShmVerif.Proof.Events
/-!
  C13 — nothing received on the control connection can crash the process.

  The model `Events` mirrors the (repaired) parser; it contains no partial access: every byte it looks at is covered by a
  length test that the code performs too (tie 1 pins those tests, tie 2 compares behaviour incl. "no panic" on the real code).
-/
namespace Props.C13
open Events List

/-- For EVERY byte string and EVERY way of cutting it into successive reads, a fresh connection ends in the same state
    (streams, their pending payloads and half-close flags, polling/hot-restart counts, closed-by-error flag, unconsumed
    rest) as if all the bytes had arrived in a single read. -/
theorem c13_chunk_independent (cfg : Cfg) (chunks : List (List Nat)) :
    feedAll cfg {} chunks = feed cfg {} chunks.flatten := by
  apply feedAll_eq_feed
  right
  simp [next, headerSize]

/-- The same from any state the connection can be in between reads (closed, or holding an incomplete event). -/
theorem c13_chunk_independent_from (cfg : Cfg) (c : Conn) (hc : Stable cfg c) (chunks : List (List Nat)) :
    feedAll cfg c chunks = feed cfg c chunks.flatten := feedAll_eq_feed cfg chunks c hc

/-- Every handled event consumes at least one byte and never more than what was received: the consumed count handed to
    commitRead is always within the window. -/
theorem c13_consumed_in_range (cfg : Cfg) (w : List Nat) (e : Effect) (n : Nat) (h : next cfg w = .ev e n) :
    0 < n ∧ n ≤ w.length := next_ev_le h

/-- A protocol error is final and independent of what follows. -/
theorem c13_error_stable (cfg : Cfg) (w x : List Nat) (h : next cfg w = .fail) : next cfg (w ++ x) = .fail :=
  (next_append cfg w x (by simp [h])).1.trans h

theorem be32_enc32 (x : Nat) (h : x < 4294967296) :
    be32 (x / 16777216 % 256) (x / 65536 % 256) (x / 256 % 256) (x % 256) = x := by
  unfold be32; omega

/-- well-formed events: field widths of the wire format -/
def WF (cfg : Cfg) : Effect → Prop
  | .poll => True
  | .close id => id < 4294967296
  | .data id status payload => id < 4294967296 ∧ status < 256 ∧ payload.length + 16 < 4294967296
  | .hotRestart e => e < 18446744073709551616 ∧ cfg.hasManager = true
  | .hotRestartAck e => e < 18446744073709551616 ∧ cfg.hasListener = true

theorem be64_enc64 (e : Nat) (h : e < 18446744073709551616) : be64 (enc64 e) = e := by
  -- two 32-bit halves, each read back by `be32_enc32`
  have h8 : ∀ a0 a1 a2 a3 b0 b1 b2 b3,
      be64 [a0, a1, a2, a3, b0, b1, b2, b3] = be32 a0 a1 a2 a3 * 4294967296 + be32 b0 b1 b2 b3 := by
    intros; simp only [be64, be32, foldl_cons, foldl_nil]; omega
  simp only [enc64, enc32, cons_append, nil_append]
  rw [h8, be32_enc32 _ (Nat.mod_lt _ (by decide)), be32_enc32 _ (Nat.mod_lt _ (by decide))]
  omega

theorem enc32_length (x : Nat) : (enc32 x).length = 4 := rfl
theorem enc64_length (x : Nat) : (enc64 x).length = 8 := rfl

/-- a header written by `header.encode`, the body its handler asks for, and anything behind: the handler's verdict on
    the body -/
theorem next_encoded (cfg : Cfg) {len v ty k : Nat} {f : List Nat → Next} (body x : List Nat) (hv : v ≠ 0)
    (hl : len < 4294967296) (hh : handler cfg len ty = some (k, f)) (hk : body.length = k) :
    next cfg (encHeader len v ty ++ (body ++ x)) = f body := by
  have hmagic : ¬ (be16 0x77 0x58 ≠ magicNumber ∨ v = 0) := by simp [be16, magicNumber, hv]
  simp only [next, encHeader, enc32, headerSize, cons_append, nil_append, length_cons, take_succ_cons, take_zero, drop_succ_cons, drop_zero]
  rw [if_neg (by omega), nextH_eq, if_neg hmagic, be32_enc32 len hl, hh]
  simp only
  rw [if_neg (by simp [hk]), take_left' hk]

/-- Round trip: what the encoders of the code produce is parsed back to the same event, consuming exactly its bytes,
    whatever follows it in the stream. -/
theorem c13_wellformed_roundtrip (cfg : Cfg) (v : Nat) (hv : v ≠ 0) (e : Effect) (hwf : WF cfg e) (x : List Nat) :
    next cfg (encode v e ++ x) = .ev e (encode v e).length := by
  cases e with
  | poll => exact next_encoded cfg (len := headerSize) (ty := typePolling) [] x hv (by decide) rfl rfl
  | close id =>
    have hid : id < 4294967296 := hwf
    rw [encode, append_assoc, next_encoded cfg (len := headerSize + 4) _ x hv (by decide) rfl rfl]
    simp [enc32, be32_enc32 id hid, encHeader, headerSize]
  | data id status payload =>
    obtain ⟨hid, hst, hlen⟩ : id < 4294967296 ∧ status < 256 ∧ payload.length + 16 < 4294967296 := hwf
    have hs := be32_enc32 status (by omega)
    rw [Nat.mod_eq_of_lt hst] at hs
    rw [encode, append_assoc, append_assoc, append_assoc, ← append_assoc (enc32 status), ← append_assoc (enc32 id),
      next_encoded cfg _ x hv (by unfold headerSize; omega) (handler_data cfg (by omega)) (by simp [enc32, headerSize]; omega)]
    simp only [enc32, cons_append, nil_append, be32_enc32 id hid, hs, Nat.mod_eq_of_lt hst]
    simp [encHeader, enc32, headerSize]; omega
  | hotRestart ep =>
    obtain ⟨hep, hm⟩ : ep < 18446744073709551616 ∧ cfg.hasManager = true := hwf
    rw [encode, append_assoc, next_encoded cfg (len := headerSize + 8) _ x hv (by decide) rfl rfl]
    simp [hm, be64_enc64 ep hep]; rfl
  | hotRestartAck ep =>
    obtain ⟨hep, hm⟩ : ep < 18446744073709551616 ∧ cfg.hasListener = true := hwf
    rw [encode, append_assoc, next_encoded cfg (len := headerSize + 8) _ x hv (by decide) rfl rfl]
    simp [hm, be64_enc64 ep hep]; rfl

/-- extractShmMetadata (handshake): what generateShmMetadata writes is read back, for all path lengths that fit the
    16-bit length fields. -/
theorem c13_metadata_roundtrip (q b : List Nat) (hq : q.length < 65536) (hb : b.length < 65536) :
    extractShmMetadata (generateShmMetadata q b) = some (b, q) := by
  unfold extractShmMetadata generateShmMetadata
  have e1 : be16 (q.length / 256 % 256) (q.length % 256) = q.length := by unfold be16; omega
  have e2 : be16 (b.length / 256 % 256) (b.length % 256) = b.length := by unfold be16; omega
  simp only [List.cons_append, List.nil_append, List.append_assoc, e1]
  have c1 : ¬ ((q ++ (b.length / 256 % 256 :: b.length % 256 :: b)).length < q.length + 2) := by
    simp only [List.length_append, List.length_cons]; omega
  simp only [c1, if_false]
  rw [drop_append_of_le_length (Nat.le_refl _)]
  simp only [List.drop_length, List.nil_append, e2]
  simp

-- non-vacuity of the chunking theorem: a byte stream with a complete fallback-data event and a truncated close event
example :
    (feed { isServer := true, hasManager := false, hasListener := false } {}
      (encode 2 (.data 5 0 [1, 2, 3]) ++ [0, 0, 0, 12, 0x77, 0x58, 2, 2, 0, 0])).sess.streams =
      [{ id := 5, state := .opened, pending := [[1, 2, 3]] }] := by decide

end Props.C13

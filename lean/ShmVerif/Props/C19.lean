import ShmVerif.Proof.NetL
/-!
  C19 — the net.Listener / net.Conn adapter behaves like a stream socket (the listener side: accounting of sessions,
  wrapped streams, backlog, Accept, Close).  `Reachable l`: the adapter after ANY sequence of sessions being established,
  streams arriving on any session, Accept calls, conns being closed, sessions ending because the peer went away, and
  listener.Close at any moment.  The io.Reader / io.Writer contracts of Read / Write on a conn are those of the stream's
  buffer operations (C06); the harness checks them, and end-to-end delivery, on real unix sockets.
-/
namespace Props.C19
open NetL

def Reachable (l : L) : Prop := ∃ cap ops, l = run { cap := cap } ops

theorem reachable_inv {l : L} (h : Reachable l) : Inv l := by
  obtain ⟨cap, ops, rfl⟩ := h; exact inv_run (inv_init cap) ops

/-- every wrapped stream surfaces at most once: what is waiting in the backlog and what Accept has handed out never
    overlap and never repeat -/
theorem c19_surfaces_once {l : L} (hr : Reachable l) :
    (l.backlog ++ l.handed).Nodup ∧ ∀ c ∈ l.backlog ++ l.handed, c < l.conns.length :=
  ⟨(reachable_inv hr).nodup, (reachable_inv hr).bound⟩

/-- ... and none is lost: a wrapped stream that is not closed is waiting in the backlog or was handed out by Accept -/
theorem c19_none_lost {l : L} (hr : Reachable l) (c : Nat) (x : Conn) (hx : l.conns[c]? = some x) (ho : x.closed = false) :
    c ∈ l.backlog ∨ c ∈ l.handed := by
  exact ((reachable_inv hr).cover c x hx).resolve_left (by simp [ho])

/-- Accept returns the oldest waiting conn (FIFO) -/
theorem c19_accept_fifo (l : L) (c : Nat) (rest : List Nat) (hb : l.backlog = c :: rest) :
    (accept l).2 = some c ∧ (accept l).1.backlog = rest ∧ (accept l).1.handed = l.handed ++ [c] := by
  simp [accept, hb]

/-- the reference count of a session is exactly: the listener's reference while it is listed, plus one per wrapped
    stream of that session that has not been closed -/
theorem c19_refs_exact {l : L} (hr : Reachable l) (k : Nat) (x : Sess) (hx : l.sess[k]? = some x) :
    x.refs = (if x.listed then 1 else 0) + l.conns.countP (isOpen k) := by
  have := ((reachable_inv hr).sess k x hx).refs
  cases hl : x.listed <;> simpa [hl] using this

/-- closing the listener unblocks Accept: afterwards nothing is waiting and no session is listed, so Accept finds the
    closed channel (the model's `none`) -/
theorem c19_close_unblocks {l : L} (hr : Reachable l) (hc : l.closed = true) :
    l.backlog = [] ∧ (accept l).2 = none ∧ ∀ x ∈ l.sess, x.listed = false := by
  have h := reachable_inv hr
  refine ⟨h.shut hc, by simp [accept, h.shut hc], fun x hx => ?_⟩
  obtain ⟨k, hk⟩ := List.getElem?_of_mem hx
  exact (h.sess k x hk).shut hc

theorem c19_close_closes (l : L) : (close l).closed = true := by simp [close]

/-- closing the listener lets sessions end once their conns are closed (repaired code): with the listener closed, a
    session none of whose handed-out conns is still open has a zero count and is closed -/
theorem c19_sessions_end {l : L} (hr : Reachable l) (hc : l.closed = true) (k : Nat) (x : Sess) (hx : l.sess[k]? = some x)
    (hall : ∀ c ∈ l.handed, ∀ y, l.conns[c]? = some y → y.sess = k → y.closed = true) : x.refs = 0 ∧ x.closed = true := by
  have h := reachable_inv hr
  have hs := h.sess k x hx
  have hl : x.listed = false := hs.shut hc
  have hcnt : l.conns.countP (isOpen k) = 0 := by
    apply List.countP_eq_zero.mpr
    intro y hy
    obtain ⟨c, hlt, hcy⟩ := List.getElem_of_mem hy
    have hcy' : l.conns[c]? = some y := by simp [hlt, hcy]
    simp only [isOpen, Bool.and_eq_true, beq_iff_eq, Bool.not_eq_true', not_and, Bool.not_eq_false]
    intro hyk
    rcases h.cover c y hcy' with h1 | h1 | h1
    · exact h1
    · rw [h.shut hc] at h1; cases h1
    · exact hall c h1 y hcy' hyk
  have hr' := hs.refs
  simp [hl, hcnt] at hr'
  exact ⟨hr', hs.zero hr'⟩

/-- a session's counter never goes negative and the session is closed exactly when it may be: at zero -/
theorem c19_zero_means_closed {l : L} (hr : Reachable l) (k : Nat) (x : Sess) (hx : l.sess[k]? = some x) (h0 : x.refs = 0) :
    x.closed = true := ((reachable_inv hr).sess k x hx).zero h0

example :
    let l := run { cap := 8 } [.newSess, .stream 0, .stream 0, .accept, .close]
    l.closed = true ∧ l.backlog = [] ∧ l.handed = [0] ∧ (l.sess.map (·.refs)) = [1] ∧ (l.sess.map (·.closed)) = [false] := by decide

example :
    let l := run { cap := 8 } [.newSess, .stream 0, .stream 0, .accept, .close, .closeConn 0]
    (l.sess.map (·.refs)) = [0] ∧ (l.sess.map (·.closed)) = [true] := by decide

end Props.C19

import ShmVerif.Proof.RestartL
import ShmVerif.Proof.RestartM
import ShmVerif.Proof.Lists
/-!
  C16 — hot restart moves every session to the new server without a stuck state.

  Server: `LReachable l` — the listener after ANY sequence of accepted connections (handshake finished or not), sessions
  closing, HotRestart calls with any epoch, acks on any session with any epoch, ticker and time-out firings.
  Client: `MReachable m` — the session manager of ANY number of sessions after ANY sequence of hot-restart events (any
  session index, any epoch, new server reachable or not), ticker / time-out firings, sessions dying, watcher steps, Close.
  Timers and connection attempts are inputs (steps), so "within a bounded time" reads: the state is left by the time-out
  step of a checker goroutine that is provably alive whenever the state is hot-restart.
-/
namespace Props.C16
open Restart

def LReachable (l : Listener) : Prop := ∃ ops, l = Listener.run {} ops
def MReachable (m : Manager) : Prop := ∃ n ops, m = (Manager.init n).run ops

theorem lreachable_inv {l : Listener} (h : LReachable l) : LInv l := by
  obtain ⟨ops, rfl⟩ := h; exact linv_run linv_init ops

theorem mreachable_inv {m : Manager} (h : MReachable m) : MInv m := by
  obtain ⟨n, ops, rfl⟩ := h; exact minv_run (minv_init n) ops

/-- No stuck state: whenever the listener is in hot-restart state its checker goroutine is alive, and that goroutine's
    time-out (or its tick with every ack in) ends the state. (On the original code HotRestart could return
    ErrInHandshakeStage with the state set and no checker: repaired.) -/
theorem c16_listener_not_stuck {l : Listener} (hr : LReachable l) (hh : l.state = .hot) :
    l.checker = true ∧ l.timeout.state = .default ∧ (l.ackCount = 0 → l.tick.state = .hotDone) := by
  have h := lreachable_inv hr
  have hc := h.chk.mpr hh
  refine ⟨hc, ?_, ?_⟩
  · simp [Listener.timeout, hc]
  · intro h0; simp [Listener.tick, hc, hh, h0]

/-- outside a hand-over nothing is pending: no session waits for an ack and the counter is zero -/
theorem c16_listener_idle_clean {l : Listener} (hr : LReachable l) (hh : l.state ≠ .hot) :
    l.checker = false ∧ l.ackCount = 0 ∧ l.hotCount = 0 := by
  have h := lreachable_inv hr
  have h1 := h.idle hh
  refine ⟨?_, ?_, h1.1⟩
  · exact Bool.eq_false_iff.mpr fun hc => hh (h.chk.mp hc)
  · rw [h.cnt, h1.1, h1.2]; rfl

/-- the counter is exactly the number of notified sessions still to ack plus those that closed meanwhile: the tick
    completes the hand-over exactly when every notified session has acknowledged and none was lost -/
theorem c16_ack_count_exact {l : Listener} (hr : LReachable l) :
    l.ackCount = ((l.hotCount + l.lostHot : Nat) : Int) ∧
    (l.state = .hot → (l.tick.state = .hotDone ↔ l.hotCount = 0 ∧ l.lostHot = 0)) := by
  have h := lreachable_inv hr
  refine ⟨h.cnt, fun hh => ?_⟩
  have hc := h.chk.mpr hh
  have e : l.tick.state = .hotDone ↔ l.ackCount = 0 := by
    by_cases h0 : l.ackCount = 0 <;> simp [Listener.tick, hc, hh, h0]
  rw [e, h.cnt]; omega

/-- a stale or foreign ack changes nothing: wrong epoch, listener not in a hand-over, or a session not waiting -/
theorem c16_stale_ack_ignored (l : Listener) (uid e : Nat) (hs : e ≠ l.epoch ∨ l.state ≠ .hot) : l.ack uid e = l := by
  rcases l.ack_cases uid e with ⟨h0, _⟩ | ⟨_, _, _, hc, _⟩
  · exact h0
  · exact hs.elim (absurd hc.1) (absurd hc.2.1)

theorem c16_ack_of_unknown_or_done_session_ignored (l : Listener) (uid e : Nat)
    (hs : ∀ s ∈ l.sess, s.uid = uid → s.state ≠ .hot) : l.ack uid e = l := by
  rcases l.ack_cases uid e with ⟨h0, _⟩ | ⟨s, hm, hp, hc, _⟩
  · exact h0
  · exact absurd hc.2.2 (hs s hm hp)

/-- HotRestart during a hand-over, or with a session still in its handshake, changes nothing at all -/
theorem c16_hotRestart_refused_is_noop (l : Listener) (e : Nat) :
    (l.state = .hot → l.hotRestart e = (l, .inProgress)) ∧
    (l.state ≠ .hot → l.sess.any (fun s => !s.hsDone) = true → l.hotRestart e = (l, .inHandshake)) := by
  constructor
  · intro h; simp [Listener.hotRestart, h]
  · intro h1 h2; simp only [Listener.hotRestart, h1, if_false, h2, if_true]

/-- a started hand-over notifies exactly the sessions in default state, once each, with the announced epoch -/
theorem c16_hotRestart_notifies (l : Listener) (e : Nat) (h1 : l.state ≠ .hot) (h2 : l.sess.any (fun s => !s.hsDone) = false) :
    (l.hotRestart e).2 = .ok ∧ (l.hotRestart e).1.state = .hot ∧ (l.hotRestart e).1.epoch = e ∧ (l.hotRestart e).1.checker = true ∧
    (l.hotRestart e).1.sent = l.sent ++ (l.sess.filter (fun s => s.state = .default)).map (fun s => (s.uid, e)) := by
  simp [Listener.hotRestart, h1, h2]

/-- No stuck state on the client: in hot-restart state the checker goroutine is alive and its time-out ends the state -/
theorem c16_manager_not_stuck {m : Manager} (hr : MReachable m) (hh : m.state = .hot) :
    m.checker = true ∧ m.timeout.state = .default ∧ m.timeout.reserve = [] := by
  have h := mreachable_inv hr
  have hc := h.chk.mpr hh
  refine ⟨hc, ?_, ?_⟩ <;> simp [Manager.timeout, hc]

/-- an event of another epoch during a hand-over changes nothing -/
theorem c16_foreign_epoch_ignored (m : Manager) (id e : Nat) (conn : Bool) (hh : m.state = .hot) (he : m.epoch ≠ e) :
    m.hotRestart id e conn = m := by
  rw [Manager.hotRestart_eq, if_pos (show m.state = .hot ∧ m.epoch ≠ e from ⟨hh, he⟩), ite_self]

/-- at every moment every session index has a pool object that exists: GetStream always finds a pool with a session -/
theorem c16_pools_always_valid {m : Manager} (hr : MReachable m) :
    m.watchers.length = m.pools.length ∧ ∀ id, id < m.pools.length → m.pools.getD id 0 < m.objs.length := by
  have h := mreachable_inv hr
  exact ⟨h.wlen, fun id hid => h.pv _ (List.getD_mem _ _ _ hid)⟩

theorem manager_completion {m : Manager} (h : MInv m) (hh : m.state = .hot) (hall : m.reserve.length = m.pools.length) :
    m.tick.state = .default ∧ m.tick.checker = false ∧
    m.tick.acks = m.acks ++ m.reserve.map (fun r => ((m.obj r.2).sess, m.epoch)) ∧
    ∀ id, id < m.pools.length → (m.obj (m.pools.getD id 0)).epoch = m.epoch := by
  have hc := h.chk.mpr hh
  refine ⟨by simp [Manager.tick, hc, hall], by simp [Manager.tick, hc, hall], by simp [Manager.tick, hc, hall], ?_⟩
  intro id hid
  have hmem := Pigeon.complete m.pools.length (m.reserve.map (·.1)) h.rnd
    (by intro x hx; obtain ⟨r, hr', rfl⟩ := List.mem_map.mp hx; exact (h.rv r hr').1) (by simpa using hall) id hid
  obtain ⟨r, hr', hri⟩ := List.mem_map.mp hmem
  have := h.ep hh r hr'
  rw [hri] at this; exact this

/-- completion: when every session index has been swapped, the tick ends the hand-over, acknowledges on every parked
    (old) session with the announced epoch, and EVERY pool holds a session of the announced epoch -/
theorem c16_manager_completion {m : Manager} (hr : MReachable m) (hh : m.state = .hot)
    (hall : m.reserve.length = m.pools.length) :
    m.tick.state = .default ∧ m.tick.checker = false ∧
    m.tick.acks = m.acks ++ m.reserve.map (fun r => ((m.obj r.2).sess, m.epoch)) ∧
    ∀ id, id < m.pools.length → (m.obj (m.pools.getD id 0)).epoch = m.epoch :=
  manager_completion (mreachable_inv hr) hh hall

/-- a hand-over that does not swap every index cannot complete by tick (it ends by time-out) -/
theorem c16_manager_partial_waits (m : Manager) (hne : m.reserve.length ≠ m.pools.length) : m.tick = m := by
  unfold Manager.tick
  rw [if_neg hne, ite_self]

-- two sessions, a full hand-over on the server: notify both, both ack, tick completes
example :
    let l := Listener.run {} [.add true, .add true, .hotRestart 7, .ack 0 7, .ack 1 9, .ack 1 7, .tick]
    l.state = .hotDone ∧ l.ackCount = 0 ∧ l.okCount = 1 ∧ l.sent = [(0, 7), (1, 7)] ∧ l.checker = false := by decide

-- the repaired defects: in-handshake refusal leaves the listener idle; a late ack after a time-out changes nothing
example :
    let l := Listener.run {} [.add true, .add false, .hotRestart 1]
    l.state = .default ∧ l.sent = [] ∧ l.checker = false := by decide
example :
    let l := Listener.run {} [.add true, .add true, .hotRestart 1, .ack 0 1, .timeout, .ack 1 1, .hotRestart 2, .ack 0 2, .ack 1 2, .tick]
    l.state = .hotDone ∧ l.ackCount = 0 ∧ l.okCount = 1 ∧ l.failCount = 1 := by decide

-- client: two pools, both swapped, tick completes with two acks on the old sessions
example :
    let m := (Manager.init 2).run [.hotRestart 0 3 true, .hotRestart 1 3 true, .hotRestart 0 4 true, .tick]
    m.state = .default ∧ m.pools = [2, 3] ∧ m.reserve = [(0, 0), (1, 1)] ∧ m.acks = [(0, 3), (1, 3)] ∧
    (m.obj 2).epoch = 3 ∧ (m.obj 3).epoch = 3 := by decide

/-! ### configurations: a prefix accepted once is accepted for every epoch -/

/-- what a session adds to the prefix never exceeds the reserve the up-front checks keep -/
theorem queuePathLen_le (prefixLen epoch rand id : Nat) (he : epoch < 2 ^ 64) (hr : rand < 2 ^ 64) (hi : id < 10 ^ 20) :
    queuePathLen prefixLen epoch rand id ≤ prefixLen + epochInfoMaxLen + queueInfoMaxLen := by
  have d20 : ∀ n, n < 10 ^ 20 → digits n ≤ 20 := fun n hn => (Nat.length_toDigits_le_iff (by decide) (by decide)).mpr hn
  have h64 : (2 : Nat) ^ 64 < 10 ^ 20 := by decide
  have d1 := d20 epoch (by omega)
  have d2 := d20 rand (by omega)
  have d3 := d20 id hi
  unfold queuePathLen epochInfoMaxLen queueInfoMaxLen
  split <;> omega

/-- The name budget: if the prefix passes newClientSession's check once, then for EVERY epoch and random id (64-bit) and
    every session id (below 10^20, as any Go int is) the derived queue path - the longest name - fits the file-name limit;
    so a hand-over cannot fail on names for a configuration that was accepted when the manager was created. -/
theorem c16_names_fit (prefixLen epoch rand id : Nat) (ha : Restart.prefixAccepted prefixLen = true)
    (he : epoch < 2 ^ 64) (hr : rand < 2 ^ 64) (hi : id < 10 ^ 20) :
    Restart.queuePathLen prefixLen epoch rand id ≤ Restart.fileNameMaxLen :=
  Nat.le_trans (queuePathLen_le prefixLen epoch rand id he hr hi) (of_decide_eq_true ha)

/-- the same for a memfd mapping (repaired code): the name handed to memfd_create, "shmipc" included, fits its 249 bytes -/
theorem c16_names_fit_memfd (prefixLen epoch rand id : Nat) (ha : Restart.prefixAcceptedMemfd prefixLen = true)
    (he : epoch < 2 ^ 64) (hr : rand < 2 ^ 64) (hi : id < 10 ^ 20) :
    Restart.memfdCreateNameLen + Restart.queuePathLen prefixLen epoch rand id ≤ Restart.memfdNameMaxLen := by
  have h1 := queuePathLen_le prefixLen epoch rand id he hr hi
  have h2 : memfdCreateNameLen + prefixLen + epochInfoMaxLen + queueInfoMaxLen ≤ memfdNameMaxLen := of_decide_eq_true ha
  omega

/-- and the reserve is not wasteful by more than the digits not used: a prefix that is rejected would indeed overflow for
    some epoch (the largest ids) -/
example : Restart.prefixAccepted 180 = true ∧ Restart.prefixAccepted 181 = false ∧
    Restart.queuePathLen 181 (2 ^ 64 - 1) (2 ^ 64 - 1) (10 ^ 19) = 256 := by decide

end Props.C16

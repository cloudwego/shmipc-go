import ShmVerif.Proof.Lifecycle
/-!
  C14 — peer death and session close are contained and release every resource.

  `Reachable s`: the process after ANY sequence of sessions being established on any of the shared buffer memories,
  Session.Close calls on any session (as often as one likes; exitErr after a broken connection ends in Close), the posted
  clean-ups running at any later moment, and OpenStream calls whose two halves (checks / insertion) interleave freely
  with all of that.  What the real process holds (descriptors, mappings, files) and what pending / later calls return on
  real session pairs is checked by the scenario monitors of the harness.
-/
namespace Props.C14
open Lifecycle

def Reachable (s : Sys) : Prop := ∃ ops, s = run {} ops

theorem reachable_inv {s : Sys} (h : Reachable s) : Inv s := by
  obtain ⟨ops, rfl⟩ := h; exact inv_run inv_init ops

/-- Close is idempotent: a second Close (or an exitErr after Close, or two racing Closes — the CAS lets one through)
    changes nothing -/
theorem c14_close_idempotent (s : Sys) (k : Nat) : close (close s k) k = close s k := by
  unfold close
  cases hk : s.sess[k]? with
  | none => simp [hk]
  | some x =>
    simp only []
    by_cases hs : x.shutdown = true
    · simp [hs, hk]
    · have hlt : k < s.sess.length := (List.getElem?_eq_some_iff.mp hk).1
      simp [hs, upd, hlt]

/-- the table's reference counts are exactly the sessions holding a reference: nothing is counted twice, nothing is
    forgotten -/
theorem c14_refcount_exact {s : Sys} (hr : Reachable s) (p : Nat) : s.refs p = s.sess.countP (holds p) :=
  (reachable_inv hr).refs p

/-- once every session has been closed and cleaned up the table counts no reference for any memory: every mapping has
    been released (addGlobalBufferManagerRefCount unmaps at zero) -/
theorem c14_all_closed_releases_everything {s : Sys} (hr : Reachable s) (hall : ∀ x ∈ s.sess, x.cleaned = true) (p : Nat) :
    s.refs p = 0 := by
  have h := reachable_inv hr
  rw [h.refs p]
  apply List.countP_eq_zero.mpr
  intro x hx
  have := (h.each x hx).cleanedSd (hall x hx)
  simp [holds, this.2.2.2.1]

/-- a closed session ends up holding nothing: after Close its clean-up is pending or done, and once done the stream
    table is empty, the connection closed, the reference released, the queue unmapped; OnShutdown fired exactly once -/
theorem c14_closed_session_holds_nothing {s : Sys} (hr : Reachable s) (x : Sess) (hx : x ∈ s.sess) (hsd : x.shutdown = true) :
    x.notified = 1 ∧ (x.posted = true ∨ x.cleaned = true) ∧
    (x.cleaned = true → x.streams = 0 ∧ x.connOpen = false ∧ x.holdsRef = false ∧ x.queueMapped = false) := by
  have hi := (reachable_inv hr).each x hx
  refine ⟨by have := hi.notif; simpa [hsd] using this, hi.sdDone hsd, ?_⟩
  intro hc; exact (hi.cleanedSd hc).2

/-- a session that was never closed has lost nothing -/
theorem c14_open_session_intact {s : Sys} (hr : Reachable s) (x : Sess) (hx : x ∈ s.sess) (hsd : x.shutdown = false) :
    x.notified = 0 ∧ x.holdsRef = true ∧ x.queueMapped = true ∧ x.connOpen = true := by
  have hi := (reachable_inv hr).each x hx
  have hnc : x.cleaned = false := Bool.eq_false_iff.mpr fun hc => Bool.noConfusion (hsd.symm.trans (hi.cleanedSd hc).1)
  exact ⟨by have := hi.notif; simpa [hsd] using this, hi.live hnc⟩

/-- the clean-up runs at most once per session: running it again changes nothing -/
theorem c14_cleanup_once (s : Sys) (k : Nat) : cleanup (cleanup s k) k = cleanup s k := by
  cases hk : s.sess[k]? with
  | none => simp [cleanup, hk]
  | some x =>
    by_cases hp : x.posted = true
    · -- the first run leaves the session with nothing posted
      have hk' : (cleanup s k).sess[k]? = some x.cleanedUp := by
        rw [(cleanup_spec hk hp).1, List.getElem?_set_self (List.getElem?_eq_some_iff.mp hk).1]
      generalize cleanup s k = s1 at hk' ⊢
      simp [cleanup, hk', Sess.cleanedUp]
    · simp [cleanup, hk, hp]

/-- OpenStream on a closed session fails at its check; OpenStream whose insertion comes after the clean-up fails too
    (repaired code: no panic) and leaves the stream table empty -/
theorem c14_open_after_close_fails (s : Sys) (k : Nat) (x : Sess) (hk : s.sess[k]? = some x) :
    (x.shutdown = true → x.opening = false → openCheck s k = (s, .closed)) ∧
    (x.opening = true → x.cleaned = true → (openInsert s k).2 = .closed) := by
  constructor
  · intro h1 h2; simp [openCheck, hk, h1, h2]
  · intro h1 h2; simp [openInsert, hk, h1, h2]

/-! ### F23: the tail of newSession against the event loop -/
section Estab
open Estab

/-- **F23 cannot come back:** with the name recorded before the registration, no interleaving of the session thread with
    a connection that breaks at any moment, and the clean-up that follows, dereferences a dropped queue manager -/
theorem c14_newSession_never_derefs_dropped_qm (l : List Ev) : (Estab.run fixedProg l).panicked = false := by
  have h := safe_run l
  exact Bool.eq_false_iff.mpr fun hpn => by simp [safe, hpn] at h

/-- ... and the order before the repair does: the schedule the harness scenario `early` replays -/
theorem old_order_panics : (Estab.run oldProg [.t, .peerBreak, .cleanup, .t]).panicked = true := by decide

end Estab

end Props.C14

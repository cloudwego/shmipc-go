import ShmVerif.Proof.MuxEos
/-!
  C07 — multiplexed streams stay isolated and ordered.

  Model `Mux`: the message-level abstraction of the two-session protocol model `Proto` (the driver runs both side by side
  against the real sessions and reports any disagreement).  `run {qcap} ops` ranges over EVERY sequence of opens, flushes
  (shared-memory or fall-back transport, queue full), closes from either end, deliveries of control-connection events to
  either end, reader moves/releases, for ANY number of streams and ANY queue capacity.

  For sender `x`, stream `j`: `tagOf x j sent` = the messages `x` flushed successfully on `j`, in flush order;
  `tagOf x.peer j arrived` = the messages that reached the peer's stream `j`, in arrival order.
  The guard `(x, j) ∉ recreated` excludes stream ids for which the SERVER re-created a stream object after closing one
  with the same id (two different streams then share an id).

  `c07_eos_after_data`, `c07_no_data_behind_close`, `c07_no_flush_after_close` (the invariant `Str` of `Proof/MuxInv`, read
  back in `Proof/MuxEos`: a stream is one FIFO across the two channels, its close notification the last element): the
  close notification of a stream never overtakes that stream's data - within the queue, within the connection, and across
  the two - and once the peer has consumed it everything flushed on the stream has arrived.

  Operations are atomic here.  The sub-operation race "the wake-up is published (flag CAS) before the polling event is
  written" (DESIGN §6 F5a) is outside this model.
-/
namespace Props.C07
open Mux List

/-- Per-stream order across the two channels: what has arrived, followed by what is still in the shared queue, followed by
    what is still on the control connection, is exactly what was flushed, in flush order. -/
theorem c07_order (qcap : Nat) (ops : List Op) (x : Side) (j : Nat) :
    let s := run { qcap := qcap } ops
    (x, j) ∉ s.recreated →
    tagOf x.peer j s.arrived ++ qdata j (s.ch x).q ++ kdata j (s.ch x).k = tagOf x j s.sent :=
  fun hr => ((run_inv _ ops x j (inv_init qcap x j)).str hr).order

/-- Hence the arrivals on a stream are a PREFIX of the flushes on that stream: in order, nothing skipped, nothing repeated,
    nothing from another stream or direction. -/
theorem c07_arrivals_prefix (qcap : Nat) (ops : List Op) (x : Side) (j : Nat) :
    let s := run { qcap := qcap } ops
    (x, j) ∉ s.recreated → tagOf x.peer j s.arrived <+: tagOf x j s.sent := by
  intro s hr
  have := c07_order qcap ops x j hr
  exact ⟨qdata j (s.ch x).q ++ kdata j (s.ch x).k, by rw [← this, append_assoc]⟩

/-- Isolation: a message that arrived on stream `j` of end `y` was flushed by the peer on stream `j`. -/
theorem c07_isolation (qcap : Nat) (ops : List Op) (y : Side) (j m : Nat) :
    let s := run { qcap := qcap } ops
    (y.peer, j) ∉ s.recreated → m ∈ tagOf y j s.arrived → m ∈ tagOf y.peer j s.sent := by
  intro s hr hm
  have := c07_arrivals_prefix qcap ops y.peer j hr
  rw [peer_peer] at this
  exact this.subset hm

/-- Once nothing of the stream is in flight any more, everything that was flushed on it has arrived. -/
theorem c07_complete_when_drained (qcap : Nat) (ops : List Op) (x : Side) (j : Nat) :
    let s := run { qcap := qcap } ops
    (x, j) ∉ s.recreated → qdata j (s.ch x).q = [] → kdata j (s.ch x).k = [] →
    tagOf x.peer j s.arrived = tagOf x j s.sent := by
  intro s hr h1 h2
  have := c07_order qcap ops x j hr
  rwa [h1, h2, append_nil, append_nil] at this

/-- The wake-up discipline at operation level: a non-empty shared queue always has its polling event on the connection. -/
theorem c07_queue_has_polling (qcap : Nat) (ops : List Op) (x : Side) :
    let s := run { qcap := qcap } ops
    (s.ch x).q ≠ [] → Ev.polling ∈ (s.ch x).k := by
  intro s hq
  have h := (run_inv _ ops x 0 (inv_init qcap x 0)).chan
  exact h.poll (h.flag hq)

/-- Close never overtakes data across the two channels (repaired code): while data of stream `j` is still in the shared
    queue, no event for `j` — in particular no close notification — sits on the connection ahead of the polling event
    that will drain that data.  (Inside one channel order is FIFO by construction.) -/
theorem c07_close_not_ahead_of_queued_data (qcap : Nat) (ops : List Op) (x : Side) (j : Nat) :
    let s := run { qcap := qcap } ops
    (x, j) ∉ s.recreated → qdata j (s.ch x).q ≠ [] → ∀ ev ∈ beforePoll (s.ch x).k, ev ≠ .close j ∧ ∀ m, ev ≠ .fb j m := by
  intro s hr hq ev hev
  have h := (run_inv _ ops x j (inv_init qcap x j)).str hr
  have := h.poll fun e => hq (by rw [← qItems_data, show qItems j (s.ch x).q = [] from e]; rfl)
  have hi : ev.item j = none := filterMap_eq_nil_iff.mp this ev hev
  constructor
  · rintro rfl; simp [Ev.item] at hi
  · rintro m rfl; simp [Ev.item] at hi

-- non-vacuity: one stream, a shared-memory message, then fall-back messages, delivered in steps
example :
    let s := run { qcap := 4 } [.open_ .a, .flush .a 2 false, .flush .a 2 true, .flush .a 2 false, .deliver .b, .deliver .b]
    tagOf .a 2 s.sent = [0, 1, 2] ∧ tagOf .b 2 s.arrived = [0, 1] ∧ kdata 2 (s.ch .a).k = [2] ∧ s.recreated = [] := by
  decide

/-- EOS after data: once the peer has consumed the close notification of stream `j` (it was issued and is no longer in
    flight), every message flushed on `j` has arrived at the peer — the notification never overtakes data, whichever of
    the two channels each of them took. -/
theorem c07_eos_after_data (qcap : Nat) (ops : List Op) (x : Side) (j : Nat) :
    let s := run { qcap := qcap } ops
    (x, j) ∉ s.recreated → (x, j) ∈ s.closeSent → ¬ PendClose j (s.ch x) →
    tagOf x.peer j s.arrived = tagOf x j s.sent :=
  fun hr => ((run_inv _ ops x j (inv_init qcap x j)).str hr).eos_after_data

/-- Nothing of stream `j` travels behind its close notification: not later in the shared queue, not later on the
    connection, and not on the connection while the notification sits in the queue. -/
theorem c07_no_data_behind_close (qcap : Nat) (ops : List Op) (x : Side) (j : Nat) :
    let s := run { qcap := qcap } ops
    (x, j) ∉ s.recreated →
    qdata j (afterCloseQ j (s.ch x).q) = [] ∧ kdata j (afterCloseK j (s.ch x).k) = [] ∧
    (closeInQ j (s.ch x).q → kdata j (s.ch x).k = []) :=
  fun hr => ((run_inv _ ops x j (inv_init qcap x j)).str hr).behind_close

/-- After the close notification of `j` was issued no flush on `j` succeeds any more (so "flushed successfully before
    closing" is everything that was ever flushed), and a notification in flight was indeed issued. -/
theorem c07_no_flush_after_close (qcap : Nat) (ops : List Op) (x : Side) (j : Nat) (heap : Bool) :
    let s := run { qcap := qcap } ops
    (x, j) ∉ s.recreated → (x, j) ∈ s.closeSent → (flush s x j heap).2 = .closed := by
  intro s hr hc
  obtain ⟨st, a, b⟩ := ((run_inv _ ops x j (inv_init qcap x j)).str hr).shut (mem_issued_none.mpr hc)
  rw [flush_not_open heap a b]

-- non-vacuity: data through the queue, more data and the close through the connection; the close is consumed last
example :
    let s := run { qcap := 4 } [.open_ .a, .flush .a 2 false, .flush .a 2 true, .close .a 2, .deliver .b, .deliver .b, .deliver .b]
    (Side.a, 2) ∈ s.closeSent ∧ s.recreated = [] ∧ (s.ch .a).k = [] ∧ (s.ch .a).q = [] ∧ tagOf .b 2 s.arrived = [0, 1] := by
  decide

end Props.C07

import ShmVerif.Proof.FreeListSeq
/-!
  C02 — the allocator neither loses nor duplicates buffers.

  Same model as C01.  Conservation and the quiescent statements are proved for every sequential-atomic history (`_seq`)
  and for EVERY interleaving (one step = one shared-memory access, any number of threads / slots / operations) in which
  no head CAS succeeds on a stale snapshot (`_noaba`).  `c02_aba_witness`: the unrestricted concurrent statement is FALSE
  of the model (and the code, finding F1).  Together: losing or duplicating a buffer REQUIRES the stale-head CAS of F1.
-/
namespace Props.C02
open FreeListC

/-- free count = length of the free chain, free count + number of owned slots = capacity; the chain from `head`
    (computeFreeSliceNum's walk) is duplicate-free and ends at `tail` -/
theorem c02_conservation_seq (n : Nat) (hn : 0 < n) (progs : List (List Op)) (ts : List Nat) :
    let s := seqRun (prime (init n progs)) ts
    ∃ free, s.size = free.length ∧ free.length + (s.ths.flatMap owned).length = s.slots.length ∧
      walk (free.length + 1) s s.head = free ∧ free.Nodup ∧ free.getLast? = some s.tail := by
  intro s
  obtain ⟨free, h, _⟩ := seqRun_rep n hn progs ts
  exact ⟨free, h.size, by have := h.total; simpa using this, walk_of_chain h.chain h.head (Nat.le_succ _),
    (List.nodup_append.mp h.nodup).1, h.tail⟩

/-- whenever every buffer has been recycled (nobody owns anything): size = cap and the walk from `head` visits every
    slot exactly once and ends at `tail` -/
theorem c02_quiescent_full_seq (n : Nat) (hn : 0 < n) (progs : List (List Op)) (ts : List Nat) :
    let s := seqRun (prime (init n progs)) ts
    s.ths.flatMap owned = [] →
    s.size = s.slots.length ∧
    ∃ free, walk (s.slots.length + 1) s s.head = free ∧ free.Nodup ∧ free.length = s.slots.length ∧
            (∀ i, i < s.slots.length → i ∈ free) ∧ free.getLast? = some s.tail := by
  intro s hq
  obtain ⟨free, h, _⟩ := seqRun_rep n hn progs ts
  have htot := h.total
  have hnd := h.nodup
  have hcp := h.complete
  simp only [show (seqRun (prime (init n progs)) ts).ths.flatMap owned = [] from hq, List.append_nil] at htot hnd hcp
  exact ⟨by rw [h.size, htot], free, walk_of_chain h.chain h.head (htot ▸ Nat.le_succ _), hnd, htot, hcp, h.tail⟩

/-- a pop that fails (class down to its last slot) leaves every shared word unchanged -/
theorem c02_failed_alloc_consumes_nothing (s : State) (t : Nat) (th : Th) (hth : s.ths[t]? = some th)
    (hpc : th.pc = .pLdHead) (hsz : s.size ≤ 1) :
    let s' := opRun 16 s t
    s'.head = s.head ∧ s'.tail = s.tail ∧ s'.size = s.size ∧ s'.slots = s.slots ∧ s'.counter = s.counter ∧
    ∃ th', s'.ths[t]? = some th' ∧ (owned th').Perm (owned th) ∧ th'.res.length > th.res.length := by
  intro s'
  have ⟨ht, _⟩ := List.getElem?_eq_some_iff.mp hth
  have hs' : s' = _ := opRun_pop_fail s t th hth hpc hsz
  refine ⟨by rw [hs'], by rw [hs'], by rw [hs'], by rw [hs'], by rw [hs'], ?_⟩
  refine ⟨finishOp { th with oldHead := s.head, lver := s.hver, pc := .pIncFail } .nomore, ?_, ?_, ?_⟩
  · rw [hs']; simp [ht]
  · rw [show owned th = th.held by simp [owned, hpc]]; exact owned_finishOp _ .nomore
  · exact finishOp_res_len { th with oldHead := s.head, lver := s.hver, pc := .pIncFail } .nomore

/-- ABA (finding F1), then everybody recycles: the counter says "full" but the chain has lost two of four slots. -/
def abaProgs : List (List Op) := [[.pop, .push 0], [.pop, .pop, .push 0, .pop, .push 1, .pop, .push 0, .push 0]]
def abaSched : List Nat := [0, 0, 0, 0] ++ List.replicate 46 1 ++ List.replicate 11 0 ++ List.replicate 14 1

set_option maxRecDepth 100000 in
theorem c02_aba_witness :
    let s := run (prime (init 4 abaProgs)) abaSched
    s.aba = true ∧ s.size = 4 ∧ s.slots.length = 4 ∧ (s.ths.map (·.pc)) = [.idle, .idle] ∧
    (s.ths.flatMap owned) = [] ∧ (walk 5 s s.head).length = 2 := by
  decide

-- non-vacuity: a sequential history that empties the class down to its last slot and refills it
set_option maxRecDepth 100000 in
example :
    let s := seqRun (prime (init 3 [[.pop, .pop, .pop, .push 0, .push 0]])) [0, 0, 0, 0, 0]
    s.ths.flatMap owned = [] ∧ s.size = 3 ∧ walk 4 s s.head = [2, 0, 1] ∧ s.tail = 1 := by
  decide

/-- conservation at every step of every interleaving without a stale-head CAS -/
theorem c02_conservation_noaba (n : Nat) (hn : 0 < n) (progs : List (List Op)) (sched : List Nat) :
    let s := run (prime (init n progs)) sched
    s.aba = false →
    ∃ Q, Q.head? = some s.head ∧ Q.getLast? = some s.tail ∧ (Q ++ s.ths.flatMap ownedC).Perm (List.range n) ∧
      s.size + (s.ths.countP resv : Int) + (s.ths.countP linking : Int) = (Q.length : Int) := by
  intro s ha
  obtain ⟨Q, I, J⟩ := reach_cq n hn progs sched ha
  exact ⟨Q, I.head, I.last, I.partition, J.size⟩

/-- quiescence (nobody inside pop / push) after any such interleaving: `size` is the number of slots the walk from
    `head` (computeFreeSliceNum's walk) visits, the walk ends at `tail`, and walk + held slots are exactly the `n` slots -/
theorem c02_quiescent_noaba (n : Nat) (hn : 0 < n) (progs : List (List Op)) (sched : List Nat) :
    let s := run (prime (init n progs)) sched
    s.aba = false → Quiet s →
    ∃ free, walk (n + 1) s s.head = free ∧ s.size = (free.length : Int) ∧ free.getLast? = some s.tail ∧
      (free ++ s.ths.flatMap (·.held)).Perm (List.range n) := by
  intro s ha hq
  obtain ⟨Q, I, J⟩ := reach_cq n hn progs sched ha
  obtain ⟨hc, hs, hp⟩ := quiet_chain I J hq
  have hlen : Q.length ≤ n := by
    have := hp.length_eq
    simp only [List.length_append, List.length_range] at this
    omega
  exact ⟨Q, walk_of_chain hc I.head (Nat.le_succ_of_le hlen), hs, I.last, hp⟩

/-- … and when every buffer has been recycled the free list is full again: `size = n`, the walk visits every slot once -/
theorem c02_quiescent_full_noaba (n : Nat) (hn : 0 < n) (progs : List (List Op)) (sched : List Nat) :
    let s := run (prime (init n progs)) sched
    s.aba = false → Quiet s → (∀ th ∈ s.ths, th.held = []) →
    s.size = (n : Int) ∧ (walk (n + 1) s s.head).Perm (List.range n) := by
  intro s ha hq hh
  obtain ⟨free, hw, hs, _, hp⟩ := c02_quiescent_noaba n hn progs sched ha hq
  have e : s.ths.flatMap (·.held) = [] := by
    rw [List.flatMap_eq_nil_iff]; exact hh
  rw [e, List.append_nil] at hp
  refine ⟨?_, hw ▸ hp⟩
  rw [hs, hp.length_eq, List.length_range]

-- non-vacuity: an interleaved, ABA-free run that ends quiescent with everything recycled
set_option maxRecDepth 100000 in
example :
    let s := run (prime (init 3 [[.pop, .push 0], [.pop, .push 0]])) ((List.replicate 30 [0, 1]).flatten)
    s.aba = false ∧ (∀ th ∈ s.ths, th.pc = .idle) ∧ (∀ th ∈ s.ths, th.held = []) ∧ s.size = 3 := by
  decide

end Props.C02

import ShmVerif.Proof.Callback
/-!
  C20 — callback mode offers every received byte to OnData once, in order, serially.

  `Reachable s`: the state after ANY schedule of
    * event-loop steps (pending.add | load state | CAS callbackInProcess (+ spawn) ; the peer's close: CAS opened→half),
      for ANY sequence of message sizes and a peer close at ANY point,
    * steps of ANY of the spawned goroutines (moveTo ; IsOpen/Len test + a whole OnData call that consumes ANY number of
      the offered bytes and may call Close, whose three accesses are separate steps ; Store 0 ; Load close state ;
      re-check + CAS ; the deferred close()),
    * steps of a user Close() issued from outside a callback at ANY point.
  Bytes are counted in arrival order (`arrived`, `offered`, `consumed`): the read buffer is a FIFO by C06, so
  "in order, never twice" is the arithmetic of these counters; the byte VALUES are compared by the harness monitor.
-/
namespace Props.C20
open Callback

def Reachable (s : State) : Prop := ∃ sched, s = run init sched

theorem reachable_inv {s : State} (h : Reachable s) : Inv s := by
  obtain ⟨sched, rfl⟩ := h; exact inv_run inv_init sched

theorem reachable_ninv {s : State} (h : Reachable s) : NInv s := by
  obtain ⟨sched, rfl⟩ := h; exact ninv_run ninv_init sched

theorem quiescent_counts {s : State} (hq : s.quiescent = true) (P : GPc → Bool) (hP : P .done = false) :
    s.e = .idle ∧ s.gs.countP P = 0 ∧ (s.u = .start ∨ s.u = .done) := by
  simp [State.quiescent] at hq
  refine ⟨hq.1.1, List.countP_eq_zero.mpr fun g hg => ?_, hq.2⟩
  rw [hq.1.2 g hg, hP]; simp

/-- OnData is never running twice at the same time: over every schedule the number of goroutines inside an OnData call
    never exceeds one. -/
theorem c20_serial {s : State} (hr : Reachable s) : s.maxOnData ≤ 1 ∧ s.inOnData ≤ 1 := by
  have h := reachable_inv hr
  refine ⟨h.maxOn, ?_⟩
  have h1 := h.inOn
  have h2 := isIn_le_active s.gs
  have h3 := h.act
  unfold b2n at h3; split at h3 <;> omega

/-- at most one goroutine owns the read buffer, exactly when callbackInProcess is set -/
theorem c20_single_owner {s : State} (hr : Reachable s) : s.gs.countP GPc.active = if s.inProcess then 1 else 0 :=
  (reachable_inv hr).act

/-- No lost wake-up: when nothing is in progress (event loop idle, every goroutine finished, no Close under way) and the
    stream is open, nothing is left in the pending list or the read buffer — every byte has been taken by an OnData
    call, without any further traffic. -/
theorem c20_no_stranded {s : State} (hr : Reachable s) (hq : s.quiescent = true) (ho : s.state = .opened) :
    s.pending = 0 ∧ s.recv = 0 := by
  have h := reachable_inv hr
  obtain ⟨he, hA, _⟩ := quiescent_counts hq GPc.active rfl
  obtain ⟨_, hB, _⟩ := quiescent_counts hq wB rfl
  obtain ⟨_, hC, _⟩ := quiescent_counts hq wC rfl
  have hp : s.inProcess = false := by
    have := h.act; rw [hA] at this; unfold b2n at this
    cases hh : s.inProcess <;> simp [hh] at this ⊢
  constructor
  · rcases Nat.eq_zero_or_pos s.pending with h0 | hpos
    · exact h0
    · rcases h.wc ho hpos hp with h1 | h1
      · rcases h1 with h1 | h1 <;> simp [he] at h1
      · omega
  · rcases Nat.eq_zero_or_pos s.recv with h0 | hpos
    · exact h0
    · have := h.wb ho hpos; omega

/-- every byte is accounted for exactly once: consumed by OnData, still buffered, or released at close; OnData was
    never shown a byte that had not arrived, nor consumed one it was not shown -/
theorem c20_conservation {s : State} (hr : Reachable s) :
    s.arrived = s.consumed + s.recv + s.pending + s.dropped ∧ s.consumed ≤ s.offered ∧ s.offered ≤ s.arrived := by
  have h := reachable_inv hr
  refine ⟨h.cons, h.off1, ?_⟩
  obtain ⟨sched, rfl⟩ := hr
  exact off2_run inv_init (by simp [init]) sched

/-- PARTIAL (the peer has not closed and nobody closed locally): at quiescence every byte that arrived has been offered
    to, and consumed by, OnData.  The full statement ("or peer close at any point") is false of the code: see
    `c20_peer_close_witness`. -/
theorem c20_all_offered_partial {s : State} (hr : Reachable s) (hq : s.quiescent = true) (ho : s.state = .opened) :
    s.consumed = s.arrived ∧ s.offered = s.arrived := by
  have h := reachable_inv hr
  obtain ⟨hp, hrv⟩ := c20_no_stranded hr hq ho
  have hd := h.drop0 (by simp [ho])
  have hc := c20_conservation hr
  omega

/-- once the stream is closed it stays closed and OnData is not called again, whatever happens next -/
theorem c20_stops_when_closed {s : State} (hc : s.state = .closed) (sched : List Step) :
    (run s sched).state = .closed ∧ (run s sched).calls = s.calls :=
  List.foldlRecOn (motive := fun s' => s'.state = .closed ∧ s'.calls = s.calls) sched step ⟨hc, rfl⟩
    fun _ hb st _ => ⟨(closed_step hb.1 st).1, (closed_step hb.1 st).2.trans hb.2⟩

/-- Close is final (repaired code): whenever a Close was requested — from inside OnData or from outside, at any point —
    and nothing is in progress any more, the stream is closed. -/
theorem c20_close_final {s : State} (hr : Reachable s) (hq : s.quiescent = true) (hreq : s.closeReq = true) :
    s.state = .closed := by
  have h := reachable_inv hr
  obtain ⟨_, hJ, hu⟩ := quiescent_counts hq wJ rfl
  cases hs : s.state with
  | closed => rfl
  | _ =>
    all_goals
      rcases h.wj hreq (by simp [hs]) with h1 | h1
      · omega
      · rcases hu with hu | hu <;> simp [hu, uWJ] at h1

/-- The peer is told exactly once (repaired code): the close notification and OnLocalClose are never issued twice, and a
    stream closed locally while the peer had not closed has issued exactly one of each. -/
theorem c20_close_notifies_once {s : State} (hr : Reachable s) :
    s.notified ≤ 1 ∧ s.onLocal = s.notified ∧
    (s.quiescent = true → s.state = .closed → s.onRemote = 0 → s.notified = 1) := by
  have h := reachable_ninv hr
  refine ⟨by have := h.once; omega, h.nl, ?_⟩
  intro hq hc hrm
  obtain ⟨_, hK, hu⟩ := quiescent_counts hq isClosing rfl
  have := h.nclosed hc hrm
  rcases hu with hu | hu <;> simpa [closers, hu, hK, uClosing, b2n] using this

/-- OnRemoteClose fires at most once, and only for a close by the peer that found the stream open -/
theorem c20_closed_only_by_cas {s : State} (hr : Reachable s) (hnc : s.state ≠ .closed) : s.notified = 0 ∧ s.onLocal = 0 := by
  have h := reachable_ninv hr
  have := h.nopen hnc
  exact ⟨by omega, by rw [h.nl]; omega⟩

/-! ### the known finding (F12), kernel-checked on the model -/

/-- data arrives, the goroutine is spawned, the peer's close is handled before the goroutine's first test of IsOpen():
    at quiescence the stream is half-closed, nobody asked for a local close, and 5 arrived bytes were never offered. -/
theorem c20_peer_close_witness :
    let s := run init [.e (.data 5), .e .none, .e .none, .e .pclose, .e .none,
                       .g 0 ⟨1000, false⟩, .g 0 ⟨1000, false⟩, .g 0 ⟨1000, false⟩, .g 0 ⟨1000, false⟩]
    s.quiescent = true ∧ s.state = .half ∧ s.closeReq = false ∧ s.arrived = 5 ∧ s.offered = 0 ∧ s.calls = 0 := by decide

/-! ### non-vacuity -/

-- the lost-wake-up window: a second message arrives between Store(callbackInProcess, 0) and the re-check; the ending
-- goroutine re-takes the flag and offers it
example :
    let od : OnData := ⟨1000, false⟩
    let s := run init [.e (.data 10), .e .none, .e .none, .g 0 od, .g 0 od, .g 0 od, .e (.data 7), .e .none, .e .none,
                       .g 0 od, .g 0 od, .g 0 od, .g 0 od, .g 0 od, .g 0 od, .g 0 od]
    s.quiescent = true ∧ s.state = .opened ∧ s.arrived = 17 ∧ s.consumed = 17 ∧ s.calls = 2 ∧ s.gs.length = 1 := by decide

-- Close inside OnData: one notification, OnLocalClose once, stream closed
example :
    let s := run init [.e (.data 26), .e .none, .e .none, .g 0 ⟨0, false⟩, .g 0 ⟨1000, true⟩, .g 0 ⟨0, false⟩, .g 0 ⟨0, false⟩,
                       .g 0 ⟨0, false⟩, .g 0 ⟨0, false⟩, .g 0 ⟨0, false⟩, .g 0 ⟨0, false⟩, .g 0 ⟨0, false⟩, .g 0 ⟨0, false⟩, .g 0 ⟨0, false⟩, .g 0 ⟨0, false⟩]
    s.quiescent = true ∧ s.closeReq = true ∧ s.state = .closed ∧ s.notified = 1 ∧ s.onLocal = 1 ∧ s.maxOnData = 1 := by decide

/-! ### why `moveTo` is one step: the lock is held across the whole walk -/

/-- an arrival (pendingData.add) -/
def arrive (s : State) (n : Nat) : State := { s with pending := s.pending + n, arrived := s.arrived + n }

/-- the atomic `moveTo` of the model loses nothing, whatever arrives before or after it -/
theorem c20_moveTo_conserves (s : State) (n k : Nat) :
    (arrive (moveTo (arrive s n)) k).recv + (arrive (moveTo (arrive s n)) k).pending = s.recv + s.pending + n + k := by
  simp [arrive, moveTo]; omega

/-- a `moveTo` that walks what is pending now, lets the event loop in, and then truncates the list (the C20e seed): -/
def moveToWalk (s : State) : State × Nat := (s, s.pending)
def moveToTruncate (s : State) (walked : Nat) : State := { s with recv := s.recv + walked, pending := 0 }

/-- ... drops every byte that arrived in between -/
theorem split_moveTo_loses (s : State) (n : Nat) (hn : 0 < n) :
    let (s1, w) := moveToWalk s
    let s2 := moveToTruncate (arrive s1 n) w
    s2.recv + s2.pending + n = s.recv + s.pending + n ∧ s2.recv + s2.pending < s.recv + s.pending + n := by
  simp [moveToWalk, moveToTruncate, arrive]; omega

end Props.C20

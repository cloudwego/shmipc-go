import ShmVerif.Proof.Layout
import ShmVerif.Proof.Lists
/-!
  C03 — both processes derive the same memory layout from any configuration.

  Model `Layout`: Go's typed arithmetic (uint32/uint64 wrap-around, int, uint16 truncation, divide by zero = panic).
  Quantification: every memory size `< 2^32` and every pair list accepted by VerifyConfig (`verifyConfig = true`:
  capacity ≥ 1 MiB, non-empty, every Size ≤ capacity, percents summing to 100), with ANY percentages and ANY order,
  under the single extra guard `36·k + 8 ≤ memLen` (the k list headers fit; i.e. fewer than ~29 000 size classes per MiB).
-/
namespace Props.C03
open Layout

theorem sane_of_verify (memLen : Nat) (pairs : List Pair) (hv : verifyConfig memLen pairs = true)
    (hmem : memLen < W32) (hk : bufferListHeaderSize * pairs.length + bufferManagerHeaderSize ≤ memLen) :
    Sane memLen pairs ∧ ∀ p ∈ pairs, p.percent ≤ 100 := by
  simp only [verifyConfig, Bool.and_eq_true, decide_eq_true_eq, Bool.not_eq_true', List.all_eq_true] at hv
  obtain ⟨⟨⟨h1, h2⟩, h3⟩, h4⟩ := hv
  exact ⟨⟨by omega, hmem, fun p hp => Nat.lt_of_le_of_lt (h3 p hp) hmem, hk, fun e => by simp [e] at h2⟩,
    fun p hp => h4 ▸ List.le_sum_map (·.percent) hp⟩

/-- Layout: creation never panics; it fails with an error or yields classes laid out back to back behind the
    8-byte manager header, each region behind its 36-byte list header and inside the mapping, with the slice sizes
    of the configuration. -/
theorem c03_layout_ok (memLen : Nat) (pairs : List Pair) (hv : verifyConfig memLen pairs = true)
    (hmem : memLen < W32) (hk : bufferListHeaderSize * pairs.length + bufferManagerHeaderSize ≤ memLen) :
    match createBufferManager pairs memLen with
    | .ok m => WellLaid memLen bufferManagerHeaderSize m.lists ∧ m.lists.map (·.capPer) = pairs.map (·.size) ∧
               endOf bufferManagerHeaderSize m.lists ≤ memLen
    | .err _ => True
    | .panic _ => False := by
  obtain ⟨hs, hp⟩ := sane_of_verify memLen pairs hv hmem hk
  have := createBufferManager_sane pairs memLen hs hp
  cases hc : createBufferManager pairs memLen with
  | ok m => rw [hc] at this; exact ⟨this.1, this.2.1, this.2.2.2.1⟩
  | err w => trivial
  | panic w => rw [hc] at this; exact this

/-- Disjointness: classes occupy pairwise disjoint byte ranges (in order), and inside a class the slots
    (20-byte header + payload) are pairwise disjoint, at slot boundaries, inside the class region. -/
theorem c03_disjoint (memLen : Nat) (pairs : List Pair) (hv : verifyConfig memLen pairs = true)
    (hmem : memLen < W32) (hk : bufferListHeaderSize * pairs.length + bufferManagerHeaderSize ≤ memLen)
    (m : Mgr) (hc : createBufferManager pairs memLen = .ok m) :
    (∀ (i j : Nat) (hi : i < m.lists.length) (hj : j < m.lists.length), i < j →
        m.lists[i].regionOff + m.lists[i].regionLen ≤ m.lists[j].off ∧ m.lists[j].off + bufferListHeaderSize = m.lists[j].regionOff) ∧
    (∀ g ∈ m.lists, bufferManagerHeaderSize ≤ g.off ∧ g.regionOff + g.regionLen ≤ memLen ∧
        ∀ i j, i < j → j < g.num →
          slotEnd g i ≤ slotStart g j ∧ g.regionOff ≤ slotStart g i ∧ slotEnd g j ≤ g.regionOff + g.regionLen) := by
  have h := c03_layout_ok memLen pairs hv hmem hk
  rw [hc] at h
  obtain ⟨hw, -, hend⟩ := h
  refine ⟨fun i j hi hj hij => ⟨List.pairwise_iff_getElem.mp hw.pairwise i j hi hj hij, (hw.of_mem (List.getElem_mem hj)).2.1⟩,
    fun g hg => ?_⟩
  obtain ⟨h1, -, h3, h4⟩ := hw.of_mem hg
  exact ⟨h1, Nat.le_trans h4 hend, fun i j hij hj => slots_disjoint g h3 i j hij hj⟩

/-- Round trip: a peer that maps the memory the creator initialised reconstructs exactly the same classes,
    capacities, offsets, head and tail. -/
theorem c03_map_roundtrip (memLen : Nat) (pairs : List Pair) (hv : verifyConfig memLen pairs = true)
    (hmem : memLen < W32) (hk : bufferListHeaderSize * pairs.length + bufferManagerHeaderSize ≤ memLen)
    (hk16 : pairs.length < 65536) (m : Mgr) (hc : createBufferManager pairs memLen = .ok m) :
    mappingBufferManager m memLen = .ok m.lists := by
  obtain ⟨hs, hp⟩ := sane_of_verify memLen pairs hv hmem hk
  exact mappingBufferManager_roundtrip pairs memLen hs hp hk16 m hc

/-- Queues: for every capacity (0 and 1 included) whose ring fits in uint32, what the creator calls its send queue is
    the mapper's receive queue and vice versa, header words at the same offsets, and the two queues do not overlap. -/
theorem c03_queue_crosswired (cap : Nat) (hcap : queueHeaderLength + cap * queueElementLen < W32) :
    let c := createQueueManager cap
    let m := mappingQueueManager (countQueueMemSize cap * queueCount) cap cap
    c.send = m.recv ∧ c.recv = m.send ∧ c.send.ringEnd ≤ c.recv.base ∧
    c.recv.ringEnd ≤ countQueueMemSize cap * queueCount ∧ c.send.ringEnd - c.send.ringOff = cap * queueElementLen :=
  queue_crosswired cap hcap

/-- Excluded input (finding F9, repaired by a `fix:` commit): before the repair `Size = 2^32-20` reached an integer
    divide by zero; the repaired code — and this model — return an error. -/
theorem c03_oversize_rejected :
    (match createBufferManager [⟨4294967276, 100⟩] 4294967286 with | .err _ => true | _ => false) = true := by decide

-- non-vacuity: a VerifyConfig-accepted two-class configuration that is laid out successfully
example :
    verifyConfig 1048576 [⟨4096, 50⟩, ⟨16384, 50⟩] = true ∧
    (match createBufferManager [⟨4096, 50⟩, ⟨16384, 50⟩] 1048576 with
     | .ok m => decide (m.lists.map (fun g => (g.off, g.num, g.capPer)) = [(8, 127, 4096), (522776, 31, 16384)])
     | _ => false) = true := by decide

/-! ### what the entry points must establish -/

def _root_.Layout.Outcome.isOk {α : Type} : Outcome α → Bool
  | .ok _ => true
  | _ => false

/-- The hypothesis of `c03_map_roundtrip` that the ENTRY POINTS have to establish: creator and peer lay out / walk the SAME
    number of bytes - the creator the length it truncated the shared object to, the peer the length it reads from the
    object. A creator that lays out more than the object has (the C03e seed: capacity rounded up to a page multiple after
    the truncate) produces a layout the peer refuses: 1 MiB + 100 bytes, classes 64 and 256 -/
example :
    (match createBufferManager [⟨64, 50⟩, ⟨256, 50⟩] 1052672 with
      | .ok m => (mappingBufferManager m 1052672).isOk && !(mappingBufferManager m 1048676).isOk
      | _ => false) = true := by
  decide

end Props.C03

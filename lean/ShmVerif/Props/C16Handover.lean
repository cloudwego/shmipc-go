import ShmVerif.Props.C16
/-!
  C16, composed: a complete hand-over, for ANY number of sessions and ANY arrival order of the per-session restart events
  and of the acknowledgements.

  Server: `n` established sessions, HotRestart(e), then every session's ack (epoch `e`) in any order, then the checker's tick.
  Client: a manager of `n` sessions receives the restart event of every session index in any order (the new server is
  reachable), then its checker's tick.
-/
namespace Props.C16
open Restart List

/-- a round of epoch `e` is open on a manager of `n` pools and the session indices `done` have been swapped, in that
    order; `acks` is what had been acknowledged before the round -/
structure Swapped (n e : Nat) (acks : List (Nat × Nat)) (done : List Nat) (m : Manager) : Prop where
  nc : m.cancelled = false
  np : m.pools.length = n
  hot : m.state = .hot
  ep : m.epoch = e
  res : m.reserve.map (·.1) = done
  acks : m.acks = acks

theorem Swapped.first {m : Manager} (hc : m.cancelled = false) (hs : m.state ≠ .hot) {id : Nat} (hid : id < m.pools.length) (e : Nat) :
    Swapped m.pools.length e m.acks [id] (m.hotRestart id e true) := by
  have hr : (m.enterHot e).reserve = [] := by simp [Manager.enterHot, hs]
  have hf := m.enterHot_frame e
  rw [Manager.hotRestart_swaps hc (fun h => absurd h hs) hid (by simp [hr])]
  exact ⟨hf.2.1.trans hc, by simp [Manager.swap, hf.1], m.enterHot_state e, by simp [Manager.swap, Manager.enterHot, hs],
    by simp [Manager.swap, hr], hf.2.2.2⟩

theorem Swapped.event {n e : Nat} {a : List (Nat × Nat)} {done : List Nat} {m : Manager} (h : Swapped n e a done m) {id : Nat}
    (hid : id < n) (hnew : id ∉ done) : Swapped n e a (done ++ [id]) (m.hotRestart id e true) := by
  have h0 := m.enterHot_of_hot e h.hot
  rw [Manager.hotRestart_swaps h.nc (fun _ => h.ep) (h.np ▸ hid)
    (by rw [h0]; intro r hr hri; exact hnew (h.res ▸ List.mem_map.mpr ⟨r, hr, hri⟩)), h0]
  exact ⟨h.nc, by simp [Manager.swap, h.np], h.hot, h.ep, by simp [Manager.swap, h.res], h.acks⟩

theorem Swapped.events {n e : Nat} {a : List (Nat × Nat)} (rest : List Nat) : ∀ (done : List Nat) (m : Manager), Swapped n e a done m →
    (done ++ rest).Nodup → (∀ id ∈ rest, id < n) →
    Swapped n e a (done ++ rest) (m.run (rest.map fun id => MOp.hotRestart id e true)) := by
  induction rest with
  | nil => intro done m h _ _; simpa [Manager.run] using h
  | cons id rest ih =>
    intro done m h hnd hlt
    have hid : id ∉ done := fun hm => (List.nodup_append.mp hnd).2.2 id hm id mem_cons_self rfl
    have := ih (done ++ [id]) _ (h.event (hlt id mem_cons_self) hid) (by simpa using hnd)
      (fun x hx => hlt x (mem_cons_of_mem _ hx))
    simpa [Manager.run, Manager.step] using this

/-- The client side of a complete hand-over, from any state: a manager that is open and not in a round receives the
    restart event (epoch `e`, new server reachable) of every session index exactly once, in ANY order; then its checker
    ticks.  It is back in default state, every pool holds a session of epoch `e`, and one acknowledgement of epoch `e` per
    pool has been written after the earlier ones. -/
theorem client_handover_from {m0 : Manager} (h0 : MInv m0) (hc : m0.cancelled = false) (hs : m0.state = .default) (e : Nat)
    (ids : List Nat) (hnd : ids.Nodup) (hlt : ∀ id ∈ ids, id < m0.pools.length) (hlen : ids.length = m0.pools.length) :
    let m := (m0.run (ids.map (fun id => MOp.hotRestart id e true))).tick
    m.state = .default ∧ m.checker = false ∧
    (∃ new, m.acks = m0.acks ++ new ∧ new.length = m0.pools.length ∧ ∀ a ∈ new, a.2 = e) ∧
    ∀ id, id < m0.pools.length → (m.obj (m.pools.getD id 0)).epoch = e := by
  intro m
  have hs' : m0.state ≠ .hot := by rw [hs]; nofun
  cases ids with
  | nil =>
    -- no pools: nothing happens, and the checker is not running
    have hck : (!m0.checker) = true := by
      rw [Bool.not_eq_true', Bool.eq_false_iff]; exact fun hk => hs' (h0.chk.mp hk)
    have hm : m = m0 := if_pos hck
    rw [hm]
    exact ⟨hs, by simpa using hck, ⟨[], by simp, hlen, nofun⟩, fun id hid => absurd hid (hlen ▸ Nat.not_lt_zero id)⟩
  | cons id0 rest =>
    -- the first event opens the round, the others only swap
    have h1 := Swapped.first hc hs' (hlt id0 mem_cons_self) e
    have hsw := Swapped.events rest [id0] _ h1 hnd (fun x hx => hlt x (mem_cons_of_mem _ hx))
    have hm : m = ((m0.hotRestart id0 e true).run (rest.map fun id => MOp.hotRestart id e true)).tick := rfl
    have hinv : MInv ((m0.hotRestart id0 e true).run (rest.map fun id => MOp.hotRestart id e true)) :=
      minv_run (minv_hotRestart h0 id0 e true) _
    generalize (m0.hotRestart id0 e true).run (rest.map fun id => MOp.hotRestart id e true) = m1 at hsw hm hinv
    have hall : m1.reserve.length = m1.pools.length := by
      have := congrArg List.length hsw.res; simp at this hlen; rw [hsw.np]; omega
    obtain ⟨c1, c2, c3, c4⟩ := manager_completion hinv hsw.hot hall
    have hpo : m1.tick.pools = m1.pools ∧ m1.tick.objs = m1.objs := by simp [Manager.tick, hinv.chk.mpr hsw.hot, hall]
    rw [hm]
    refine ⟨c1, c2, ⟨_, hsw.acks ▸ c3, by rw [List.length_map, hall, hsw.np], ?_⟩, ?_⟩
    · intro a ha
      obtain ⟨r, _, rfl⟩ := List.mem_map.mp ha
      exact hsw.ep
    · intro id hid
      simp only [Manager.obj, hpo.1, hpo.2]
      exact (c4 id (hsw.np ▸ hid)).trans hsw.ep

/-- Client side of a complete hand-over: a manager of `n` sessions receives the restart event (epoch `e`, new server
    reachable) of every session index exactly once, in ANY order; then its checker ticks.  The manager leaves the
    hot-restart state, every pool holds a session of epoch `e`, and exactly `n` acknowledgements (epoch `e`) were written,
    one on each old session. -/
theorem c16_client_handover (n e : Nat) (hn : 0 < n) (ids : List Nat) (hnd : ids.Nodup) (hlt : ∀ id ∈ ids, id < n)
    (hlen : ids.length = n) :
    let m := ((Manager.init n).run (ids.map (fun id => MOp.hotRestart id e true))).tick
    m.state = .default ∧ m.checker = false ∧ m.acks.length = n ∧ (∀ a ∈ m.acks, a.2 = e) ∧
    ∀ id, id < n → (m.obj (m.pools.getD id 0)).epoch = e := by
  have hp : (Manager.init n).pools.length = n := by simp [Manager.init]
  obtain ⟨c1, c2, ⟨new, c3, c4, c5⟩, c6⟩ :=
    client_handover_from (minv_init n) rfl rfl e ids hnd (hp.symm ▸ hlt) (hlen.trans hp.symm)
  rw [show (Manager.init n).acks = [] from rfl, List.nil_append] at c3
  rw [hp] at c4 c6
  exact ⟨c1, c2, c3 ▸ c4, c3 ▸ c5, c6⟩

/-- no session with uid `u` is waiting for its ack -/
def NoHot (u : Nat) (l : Listener) : Prop := ∀ s ∈ l.sess, s.uid = u → s.state ≠ .hot

/-- `l'` is `l` after some acknowledgements: state, epoch and the two counters read by the final tick are the same, and
    no session has started to wait -/
structure Acked (l l' : Listener) : Prop where
  state : l'.state = l.state
  epoch : l'.epoch = l.epoch
  lostHot : l'.lostHot = l.lostHot
  okCount : l'.okCount = l.okCount
  /-- Every session of `l'` comes from a session of `l` with the same uid, and waits only if that one did.  So "nobody
      with uid `u` waits" survives further acks (`Acked.noHot`), and the uids present after all acks are among those
      notified: once every uid has been acked nobody waits and the counter, which counts the waiting, is zero. -/
  sess : ∀ s' ∈ l'.sess, ∃ s ∈ l.sess, s.uid = s'.uid ∧ (s'.state = .hot → s.state = .hot)

theorem Acked.refl (l : Listener) : Acked l l := ⟨rfl, rfl, rfl, rfl, fun s hs => ⟨s, hs, rfl, id⟩⟩

theorem Acked.trans {a b c : Listener} (h1 : Acked a b) (h2 : Acked b c) : Acked a c :=
  ⟨h2.state.trans h1.state, h2.epoch.trans h1.epoch, h2.lostHot.trans h1.lostHot, h2.okCount.trans h1.okCount,
   fun s'' hs'' => by
    obtain ⟨s', hs', hu', hm'⟩ := h2.sess s'' hs''
    obtain ⟨s, hs, hu, hm⟩ := h1.sess s' hs'
    exact ⟨s, hs, hu.trans hu', fun hh => hm (hm' hh)⟩⟩

theorem ack_acked (l : Listener) (u e : Nat) : Acked l (l.ack u e) := by
  rcases l.ack_cases u e with ⟨h0, _⟩ | ⟨_, _, _, _, h0⟩ <;> rw [h0]
  · exact .refl l
  · refine ⟨rfl, rfl, rfl, rfl, fun s' hs' => ?_⟩
    obtain ⟨x, hx, rfl⟩ := List.mem_map.mp hs'
    refine ⟨x, hx, ?_, ?_⟩ <;> split
    · rfl
    · rfl
    · nofun
    · exact id

theorem acks_acked (e : Nat) (us : List Nat) (l : Listener) : Acked l (us.foldl (fun l u => l.ack u e) l) :=
  List.foldlRecOn us _ (.refl l) fun b hb u _ => hb.trans (ack_acked b u e)

theorem Acked.noHot {l l' : Listener} (h : Acked l l') {u : Nat} (hn : NoHot u l) : NoHot u l' := by
  intro s' hs' hu hhot
  obtain ⟨s, hs, hsu, hm⟩ := h.sess s' hs'
  exact hn s hs (hsu.trans hu) (hm hhot)

theorem ack_noHot_self {l : Listener} (h : LInv l) (u e : Nat) (hs : l.state = .hot) (he : e = l.epoch) : NoHot u (l.ack u e) := by
  intro s' hs' hu hhot
  rcases l.ack_cases u e with ⟨h0, hno | ⟨s, hsm, hsu, hc⟩⟩ | ⟨_, _, _, _, h0⟩ <;> rw [h0] at hs'
  · exact hno s' hs' hu
  · have hsn : s.state ≠ .hot := fun hh => hc ⟨he, hs, hh⟩
    -- s (not hot) and s' (hot) both carry uid u: two sessions with one uid
    have h1 : 0 < l.sess.countP (fun x => x.hasUid u && x.isHot) :=
      List.countP_pos_iff.mpr ⟨s', hs', by simp [SSess.hasUid, SSess.isHot, hu, hhot]⟩
    have h2 : 0 < l.sess.countP (fun x => x.hasUid u && !x.isHot) :=
      List.countP_pos_iff.mpr ⟨s, hsm, by simp [SSess.hasUid, SSess.isHot, hsu, hsn]⟩
    have h3 := countP_and_add (SSess.hasUid u) SSess.isHot l.sess
    have h4 := h.uids.uniq u
    omega
  · obtain ⟨x, hx, rfl⟩ := List.mem_map.mp hs'
    by_cases hxu : x.uid = u
    · simp [hxu] at hhot
    · simp [hxu] at hu

theorem acks_noHot (e : Nat) : ∀ (us : List Nat) (l : Listener), LInv l → l.state = .hot → l.epoch = e →
    ∀ u ∈ us, NoHot u (us.foldl (fun l u => l.ack u e) l) := by
  intro us
  induction us with
  | nil => intro _ _ _ _ u hu; cases hu
  | cons u rest ih =>
    intro l h hs he u' hu'
    have ha := ack_acked l u e
    rcases List.mem_cons.mp hu' with rfl | h2
    · exact (acks_acked e rest _).noHot (ack_noHot_self h u' e hs he.symm)
    · exact ih _ (linv_ack h u e) (ha.state.trans hs) (ha.epoch.trans he) u' h2

/-- `n` connections accepted by a fresh listener, handshakes finished -/
theorem addN_eq (n : Nat) : (List.replicate n (LOp.add true)).foldl Listener.step {} =
    { sess := (List.range n).map fun i => { uid := i }, nextUid := n } := by
  induction n with
  | zero => rfl
  | succ n ih =>
    rw [List.replicate_succ', List.foldl_append, ih]
    simp [Listener.step, Listener.add, List.range_succ]

/-- Server side of a complete hand-over: `n` established sessions, HotRestart(e), then the acknowledgement (epoch `e`) of
    every session exactly once, in ANY order, then the checker's tick: the listener has notified every session once and
    reaches hotRestartDone. -/
theorem c16_server_handover (n e : Nat) (uids : List Nat) (hnd : uids.Nodup) (hlt : ∀ u ∈ uids, u < n) (hlen : uids.length = n) :
    let l0 := (List.replicate n (LOp.add true)).foldl Listener.step {}
    let l1 := (l0.hotRestart e).1
    let l3 := (uids.foldl (fun l u => l.ack u e) l1).tick
    (l0.hotRestart e).2 = .ok ∧ l1.sent.length = n ∧ l3.state = .hotDone ∧ l3.okCount = 1 ∧ l3.checker = false := by
  intro l0 l1 l3
  have hl0 : LInv l0 := linv_run linv_init _
  have e0 : l0 = { sess := (List.range n).map fun i => { uid := i }, nextUid := n } := addN_eq n
  have hnot : l0.state ≠ .hot := by rw [e0]; nofun
  have hhs : l0.sess.any (fun s => !s.hsDone) = false := by rw [e0]; simp
  obtain ⟨n1, n2, n3, _, n5⟩ := c16_hotRestart_notifies l0 e hnot hhs
  have hl1 : LInv l1 := linv_hotRestart hl0 e
  -- the sessions of `l1` carry the uids below `n`; nothing is lost or completed yet
  have e1 : l1.lostHot = 0 ∧ l1.okCount = 0 ∧ ∀ s ∈ l1.sess, s.uid < n := by
    simp only [l1, Listener.hotRestart, if_neg hnot, hhs]
    rw [e0]; simp
  have ha := acks_acked e uids l1
  have hinv : LInv (uids.foldl (fun l u => l.ack u e) l1) :=
    List.foldlRecOn uids _ hl1 fun b hb u _ => linv_ack hb u e
  have hno := acks_noHot e uids l1 hl1 n2 n3
  have hl3 : l3 = (uids.foldl (fun l u => l.ack u e) l1).tick := rfl
  generalize uids.foldl (fun l u => l.ack u e) l1 = l2 at ha hinv hno hl3
  -- every session has been acknowledged: none is waiting, so the counter is zero
  have hhot0 : l2.hotCount = 0 := by
    apply List.countP_eq_zero.mpr
    intro s hs
    obtain ⟨s1, hs1, hu, _⟩ := ha.sess s hs
    have hmem : s.uid ∈ uids := Pigeon.complete n uids hnd hlt hlen s.uid (hu ▸ e1.2.2 s1 hs1)
    simpa [SSess.isHot] using hno s.uid hmem s hs rfl
  have hcnt := hinv.cnt
  rw [hhot0, ha.lostHot, e1.1] at hcnt
  have hst := ha.state.trans n2
  have hchk := hinv.chk.mpr hst
  have ht : l2.tick = { l2 with state := .hotDone, checker := false, okCount := l2.okCount + 1 } := by
    simp [Listener.tick, hchk, hst, hcnt]
  rw [hl3, ht]
  refine ⟨n1, ?_, rfl, by simp [ha.okCount, e1.2.1], rfl⟩
  rw [n5, e0]; simp [List.filter_eq_self.mpr]

end Props.C16

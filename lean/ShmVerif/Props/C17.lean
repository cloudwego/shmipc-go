import ShmVerif.Proof.RestartM
import ShmVerif.Props.C16
/-!
  C17 — the session manager heals lost sessions and only those.
  Same model and reachability as C16 (client side): the per-pool watcher goroutine of SessionManager.background is a
  thread whose steps interleave arbitrarily with hot-restart events, sessions dying, timers and Close.
-/
namespace Props.C17
open Restart Props.C16

/-- a watcher creates a session only when its rebuild timer fires, it is not pre-empted by cancellation, the reconnect
    succeeds, and the pool's current session has the epoch of the session it saw die -/
theorem c17_rebuild_only_from_timer (m : Manager) (id : Nat) (fire conn ctx : Bool)
    (hne : (m.watch id fire conn ctx).created ≠ m.created) :
    ∃ o cur, m.watchers[id]? = some (.timer o) ∧ fire = true ∧ conn = true ∧ m.pools[id]? = some cur ∧
      (m.obj cur).epoch = (m.obj o).epoch := by
  have hw := m.watch_wstep id fire conn ctx
  generalize m.watch id fire conn ctx = m' at hw hne
  cases hw with
  | idle => exact absurd rfl hne
  | move => exact absurd rfl hne
  | lost o => exact absurd (closeObj_same m o).created hne
  | rebuilt o cur pc' hpc hf hc hcur hep => exact ⟨o, cur, hpc, hf, hc, hcur, hep⟩

/-- a pool replaced by a hot restart is not rebuilt a second time: when the timer fires and the pool's current session
    belongs to another epoch than the one the watcher saw die, nothing is created and no object changes -/
theorem c17_no_double_rebuild (m : Manager) (id o cur : Nat) (conn ctx : Bool)
    (hw : m.watchers[id]? = some (.timer o)) (hcur : m.pools[id]? = some cur)
    (hep : (m.obj cur).epoch ≠ (m.obj o).epoch) (hnc : m.cancelled = false) :
    (m.watch id true conn ctx).created = m.created ∧ (m.watch id true conn ctx).objs = m.objs ∧
    (m.watch id true conn ctx).nextSess = m.nextSess := by
  have hs := m.watch_wstep id true conn ctx
  generalize m.watch id true conn ctx = m' at hs
  cases hs with
  | idle => exact ⟨rfl, rfl, rfl⟩
  | move => exact ⟨rfl, rfl, rfl⟩
  | lost o' hpc => rw [hw] at hpc; cases hpc
  | rebuilt o' cur' pc' hpc _ _ hcur' hep' =>
    rw [hw] at hpc; rw [hcur] at hcur'; cases hpc; cases hcur'; exact absurd hep' hep

/-- the watcher only enters its rebuild wait after it saw its pool's session closed outside a hot restart, and then it
    closes that pool -/
theorem c17_timer_entered_on_loss (m : Manager) (id o : Nat) (fire conn ctx : Bool)
    (hw : m.watchers[id]? = some (.sel o)) (hin : (m.watch id fire conn ctx).watchers[id]? = some (.timer o)) :
    (m.obj o).alive = false ∧ m.state ≠ .hot := by
  have hid : id < m.watchers.length := (List.getElem?_eq_some_iff.mp hw).1
  have hs := m.watch_wstep id fire conn ctx
  generalize m.watch id fire conn ctx = m' at hs hin
  cases hs with
  | idle => rw [hw] at hin; cases hin
  | move pc pc' _ _ hnt => rw [w_setW hid] at hin; exact absurd (Option.some.inj hin) (hnt o)
  | lost o' hpc ha hst => rw [hw] at hpc; cases hpc; exact ⟨ha, hst⟩
  | rebuilt o' cur pc' hpc => rw [hw] at hpc; cases hpc

/-- pool `id` holds object `cur`, which exists; the manager is open, not cancelled and not in a hand-over (so the `ctx`
    argument of `watch`, which only matters after cancellation, can be left at its default) -/
structure Ready (m : Manager) (id cur : Nat) : Prop where
  pool : m.pools[id]? = some cur
  lt : cur < m.objs.length
  wlt : id < m.watchers.length
  nc : m.cancelled = false
  st : m.state = .default

theorem ready_setW {m : Manager} {id cur : Nat} (r : Ready m id cur) (pc : WPc) : Ready (m.setW id pc) id cur :=
  ⟨r.pool, r.lt, by simpa [Manager.setW] using r.wlt, r.nc, r.st⟩

theorem obj_setW (m : Manager) (id x : Nat) (pc : WPc) : (m.setW id pc).obj x = m.obj x := rfl

theorem step_top {m : Manager} {id cur : Nat} (r : Ready m id cur) (f c x : Bool)
    (hw : m.watchers[id]? = some .start ∨ m.watchers[id]? = some .sleep) : m.watch id f c x = m.setW id (.sel cur) := by
  rw [Manager.watch_top hw]; simp [Manager.wTop, r.st, r.pool]

theorem step_sel_dead {m : Manager} {id cur : Nat} {f c x : Bool} (r : Ready m id cur)
    (hw : m.watchers[id]? = some (.sel cur)) (hd : (m.obj cur).alive = false) :
    m.watch id f c x = (m.closeObj cur).setW id (.timer cur) := by
  rw [Manager.watch_sel hw]; simp [hd, r.nc, r.st]

theorem step_sel_alive {m : Manager} {id cur : Nat} {f c x : Bool} (r : Ready m id cur)
    (hw : m.watchers[id]? = some (.sel cur)) (hd : (m.obj cur).alive = true) : m.watch id f c x = m := by
  rw [Manager.watch_sel hw]; simp [hd, r.nc]

theorem ready_closeObj {m : Manager} {id cur : Nat} (r : Ready m id cur) (o : Nat) : Ready (m.closeObj o) id cur := by
  have ss := closeObj_same m o
  exact ⟨ss.pools ▸ r.pool, ss.olen ▸ r.lt, ss.watchers ▸ r.wlt, ss.cancelled.trans r.nc, ss.state.trans r.st⟩

theorem step_timer {m : Manager} {id cur : Nat} (r : Ready m id cur) (x : Bool) (hw : m.watchers[id]? = some (.timer cur)) :
    ∃ m', m.watch id true true x = m'.setW id (.sel cur) ∧ Ready m' id cur ∧ (m'.obj cur).alive = true := by
  refine ⟨m.rebuild id cur, ?_, ⟨r.pool, by simpa [Manager.rebuild, Manager.setObj] using r.lt, r.wlt, r.nc, r.st⟩, ?_⟩
  · rw [Manager.watch_timer hw]
    simp [Manager.wTop, Manager.rebuild, Manager.setObj, r.st, r.pool, r.nc]
  · show ((m.setObj cur _).obj cur).alive = true
    rw [Manager.obj_setObj, if_pos ⟨rfl, r.lt⟩]

/-- Healing: with the manager open and not in a hand-over, whatever the watcher of a pool is doing (about to look,
    sleeping, waiting for the session to close, or in its rebuild wait), once its rebuild timer fires and the server is
    reachable the pool holds a live session again within three watcher steps — and still the same pool object. -/
theorem c17_heals (m : Manager) (id cur : Nat) (r : Ready m id cur)
    (hpc : m.watchers[id]? = some .start ∨ m.watchers[id]? = some .sleep ∨ m.watchers[id]? = some (.sel cur) ∨
           m.watchers[id]? = some (.timer cur)) :
    let m3 := ((m.watch id true true).watch id true true).watch id true true
    (m3.obj cur).alive = true ∧ m3.pools[id]? = some cur ∧ m3.watchers[id]? = some (.sel cur) := by
  -- from `sel cur`: at most two steps to a live session, then the watcher idles at `sel cur`
  have fromSel : ∀ m : Manager, Ready m id cur → m.watchers[id]? = some (.sel cur) →
      ∀ m2, m2 = (m.watch id true true).watch id true true →
      (m2.obj cur).alive = true ∧ Ready m2 id cur ∧ m2.watchers[id]? = some (.sel cur) := by
    intro m r hw m2 hm2
    cases hd : (m.obj cur).alive with
    | true =>
      rw [step_sel_alive r hw hd, step_sel_alive r hw hd] at hm2
      subst hm2; exact ⟨hd, r, hw⟩
    | false =>
      rw [step_sel_dead r hw hd] at hm2
      have r1 := ready_setW (ready_closeObj r cur) (.timer cur)
      obtain ⟨m', e', r', a'⟩ := step_timer r1 false (w_setW (ready_closeObj r cur).wlt _)
      rw [e'] at hm2; subst hm2
      exact ⟨a', ready_setW r' _, w_setW r'.wlt _⟩
  intro m3
  rcases or_assoc.mpr hpc with h | h | h
  · have e1 := step_top r true true false h
    have r1 := ready_setW r (.sel cur)
    have := fromSel _ r1 (w_setW r.wlt _) _ rfl
    simp only [m3, e1]
    exact ⟨this.1, this.2.1.pool, this.2.2⟩
  · have := fromSel _ r h _ rfl
    simp only [m3]
    rw [step_sel_alive this.2.1 this.2.2 this.1]
    exact ⟨this.1, this.2.1.pool, this.2.2⟩
  · obtain ⟨m', e', r', a'⟩ := step_timer r false h
    have r1 := ready_setW r' (.sel cur)
    have w1 : (m'.setW id (.sel cur)).watchers[id]? = some (.sel cur) := w_setW r'.wlt _
    simp only [m3, e']
    rw [step_sel_alive r1 w1 a', step_sel_alive r1 w1 a']
    exact ⟨a', r1.pool, w1⟩

/-- once Close has returned nothing the manager does creates a session or moves a watcher -/
theorem c17_closed_is_final {m : Manager} (hr : MReachable m) (hc : m.closed = true) (op : MOp) :
    (m.step op).created = m.created ∧ (m.step op).watchers = m.watchers ∧ (m.step op).closed = true := by
  have h := mreachable_inv hr
  obtain ⟨hcan, hall⟩ := h.cd hc
  cases op with
  | hotRestart id e c =>
    simp only [Manager.step]
    rw [Manager.hotRestart_eq, if_pos hcan]; exact ⟨rfl, rfl, hc⟩
  | tick =>
    simp only [Manager.step, Manager.tick]
    (repeat' split) <;> exact ⟨rfl, rfl, hc⟩
  | timeout =>
    simp only [Manager.step, Manager.timeout]
    have ss := closeObjs_same (m.reserve.map (·.2)) m
    split
    · exact ⟨rfl, rfl, hc⟩
    · exact ⟨ss.created, ss.watchers, ss.closed.trans hc⟩
  | lose o =>
    simp only [Manager.step, Manager.lose, Manager.setObj]
    split <;> exact ⟨rfl, rfl, hc⟩
  | watch id f c x =>
    have hd : m.watchers[id]? = none ∨ m.watchers[id]? = some .done := by
      cases hpc : m.watchers[id]? with
      | none => exact .inl rfl
      | some pc => exact .inr (by simpa using List.all_eq_true.mp hall pc (List.mem_of_getElem? hpc))
    simp only [Manager.step]
    rw [Manager.watch_idle hd]; exact ⟨rfl, rfl, hc⟩
  | cancel => exact ⟨rfl, rfl, hc⟩
  | finishClose =>
    simp only [Manager.step, Manager.finishClose]
    rw [if_neg (by simp [hc])]; exact ⟨rfl, rfl, hc⟩

/-- Close (repaired code) closes the session of every pool, current and parked: closing the manager stops all of it -/
theorem c17_close_closes_everything {m : Manager} (hr : MReachable m)
    (hcond : m.cancelled = true ∧ m.watchers.all (· == .done) = true ∧ m.closed = false) :
    m.finishClose.closed = true ∧ m.finishClose.reserve = [] ∧
    (∀ o ∈ m.pools, (m.finishClose.obj o).alive = false) ∧ (∀ r ∈ m.reserve, (m.finishClose.obj r.2).alive = false) := by
  have h := mreachable_inv hr
  have hc : (m.cancelled = true ∧ m.watchers.all (· == .done) = true ∧ (!m.closed) = true) := by simpa using hcond
  unfold Manager.finishClose
  rw [if_pos hc]
  exact ⟨rfl, rfl, fun o ho => closeObjs_dead _ (.inr ⟨List.mem_append_left _ ho, h.pv o ho⟩),
    fun r hr' => closeObjs_dead _ (.inr ⟨List.mem_append_right _ (List.mem_map.mpr ⟨r, hr', rfl⟩), (h.rv r hr').2⟩)⟩

end Props.C17

import ShmVerif.Proof.FreeListSeq
/-!
  C01 — a shared-memory buffer never has two owners at once.

  Model: `FreeListC` (one step = one shared-memory access of bufferList.pop / push / the bufferHeader accessors).
  Exclusive ownership is proved for EVERY interleaving in which no head CAS succeeds on a stale snapshot (`_noaba`) and
  for every sequential-atomic history (`_seq`); `c01_geometry` holds for every interleaving.  `c01_aba_witness`: the
  unrestricted statement is FALSE of the model (and of the code: the same schedule is replayed on the real pop/push on
  every run, known finding F1).  Together: the ONLY way two owners can arise is the stale-head CAS of finding F1.
-/
namespace Props.C01
open FreeListC

/-- Geometry, all interleavings: every slot ever returned by `pop` (and every slot held) is `< n`. -/
theorem c01_geometry (n : Nat) (hn : 0 < n) (progs : List (List Op)) (sched : List Nat) :
    let s := run (prime (init n progs)) sched
    ∀ th ∈ s.ths, (∀ i, Res.got i ∈ th.res → i < n) ∧ (∀ h ∈ th.held, h < n) := by
  intro s th hth
  have hok := (run_geom _ sched (prime_geom _ (geom_init n hn progs))).ths th hth
  exact ⟨fun i hi => hok.res _ hi, hok.held⟩

/-- Exclusive ownership for every sequential-atomic history: the free chain and the slots owned by the threads
    partition `{0..n-1}` (no slot twice, none lost), after any number of non-overlapping pops and pushes. -/
theorem c01_exclusive_seq (n : Nat) (hn : 0 < n) (progs : List (List Op)) (ts : List Nat) :
    let s := seqRun (prime (init n progs)) ts
    ∃ free, Chain s.slots free ∧ free.head? = some s.head ∧
      (free ++ s.ths.flatMap owned).Nodup ∧ (free ++ s.ths.flatMap owned).length = n ∧
      (∀ i ∈ free ++ s.ths.flatMap owned, i < n) := by
  intro s
  obtain ⟨free, h, hlen⟩ := seqRun_rep n hn progs ts
  exact ⟨free, h.chain, h.head, h.nodup, h.total.trans hlen, fun i hi => hlen ▸ h.bound i hi⟩

-- non-vacuity of the sequential theorem: a concrete history in which slots are handed out and recycled
set_option maxRecDepth 100000 in
example :
    let s := seqRun (prime (init 3 [[.pop, .pop, .push 0], [.pop, .pop]])) [0, 1, 0, 1, 0]
    (s.ths.map (·.res)) = [[.got 0, .nomore, .pushed 0], [.got 1, .nomore]] ∧ s.size = 2 := by
  decide

/-- Exclusive ownership for EVERY interleaving without a stale-head CAS (ghost flag `aba`, set by the model exactly when a
    head CAS succeeds although another head CAS succeeded since the popper loaded `head`): the free queue `Q`
    (from `head` to `tail`) and the slots the threads own partition `{0 … n-1}`. -/
theorem c01_exclusive_noaba (n : Nat) (hn : 0 < n) (progs : List (List Op)) (sched : List Nat) :
    let s := run (prime (init n progs)) sched
    s.aba = false →
    ∃ Q, Q.head? = some s.head ∧ Q.getLast? = some s.tail ∧
      (Q ++ s.ths.flatMap ownedC).Nodup ∧ (Q ++ s.ths.flatMap ownedC).length = n ∧
      (∀ i ∈ Q ++ s.ths.flatMap ownedC, i < n) := by
  intro s ha
  obtain ⟨Q, I, _⟩ := reach_cq n hn progs sched ha
  have P := I.partition
  exact ⟨Q, I.head, I.last, P.nodup_iff.mpr List.nodup_range, by rw [P.length_eq, List.length_range],
    fun i hi => List.mem_range.mp (P.mem_iff.mp hi)⟩

/-- in such an interleaving nobody is ever handed (or holds) a slot that is still in the free queue, and no two
    threads hold the same slot -/
theorem c01_no_two_owners_noaba (n : Nat) (hn : 0 < n) (progs : List (List Op)) (sched : List Nat) :
    let s := run (prime (init n progs)) sched
    s.aba = false →
    ∀ (t t' : Nat) (th th' : Th), t ≠ t' → s.ths[t]? = some th → s.ths[t']? = some th' →
      ∀ x ∈ ownedC th, x ∉ ownedC th' := by
  intro s ha t t' th th' hne h h' x hx
  obtain ⟨Q, I, _⟩ := reach_cq n hn progs sched ha
  exact I.owned_disjoint hne h h' hx

-- non-vacuity: a genuinely interleaved run (two threads alternate access by access) that stays ABA-free
set_option maxRecDepth 100000 in
example :
    let s := run (prime (init 4 [[.pop, .push 0, .pop], [.pop, .pop, .push 1]])) ((List.replicate 40 [0, 1]).flatten)
    s.aba = false ∧ (s.ths.map (·.held)) = [[3], [1]] ∧ s.head = 0 ∧ s.tail = 2 ∧ s.size = 2 := by
  decide

/-- The ABA schedule (finding F1). Thread 0 stalls in `pop` between reading `head.next` and the head CAS; thread 1
    performs pop, pop, push, pop, push, pop; thread 0's CAS then succeeds with a stale `next`:
    `head` = slot 1, which thread 1 still holds — the full statement of C01 is false of the model. -/
def abaProgs : List (List Op) := [[.pop], [.pop, .pop, .push 0, .pop, .push 1, .pop]]
def abaSched : List Nat := [0, 0, 0, 0] ++ List.replicate 46 1 ++ [0]

set_option maxRecDepth 100000 in
theorem c01_aba_witness :
    let s := run (prime (init 4 abaProgs)) abaSched
    s.aba = true ∧ s.head = 1 ∧ (s.ths.getD 1 default).held = [1, 3] ∧ (s.ths.getD 1 default).pc = .idle := by
  decide

end Props.C01

import ShmVerif.Proof.EventConn
/-!
  C18 — the event connection moves bytes exactly once and in order under any kernel IO.

  The kernel is an input: EVERY list of read results (EAGAIN, EOF, any number of bytes up to the room offered), EVERY
  consumer pacing, EVERY list of write results (EAGAIN, any partial count), EVERY schedule of the writers.
-/
namespace Props.C18
open EventConn List

/-- Read side: whatever the kernel delivers and however little the callback consumes, the buffer-based implementation
    (growth by doubling with compaction, the 1 MiB early callback, the shrink rule of commitRead) shows the callback exactly
    the windows of a plain byte queue — the unconsumed bytes followed by the new ones — and keeps
    `0 ≤ readStartOff ≤ readEndOff ≤ len(readBuffer)`. -/
theorem c18_read_window (cfg : RCfg) (hthr : 2 ≤ cfg.shrinkThreshold) (fuel : Nat) (s : RState)
    (reads : List KRead) (cs : Consumer) (shown : List (List Nat)) (h : RInv s) :
    RInv (onReadReady cfg fuel s reads cs shown).1 ∧
    abs (onReadReady cfg fuel s reads cs shown).1 = (specReady cfg fuel (abs s) reads cs shown).1 ∧
    (onReadReady cfg fuel s reads cs shown).2.1 = (specReady cfg fuel (abs s) reads cs shown).2.1 :=
  let r := onReadReady_refines cfg hthr fuel s reads cs shown h
  ⟨r.1, congrArg (·.1) r.2, congrArg (·.2.1) r.2⟩

/-- the real thresholds satisfy the side condition -/
example : 2 ≤ ({} : RCfg).shrinkThreshold := by decide

/-- Write side: for every list of partial-write results the bytes accepted by the kernel are a prefix of the data, each
    byte once and in order; `write` reports success only if that prefix is the whole data. -/
theorem c18_write_exact (fuel : Nat) (data : List Nat) (res : List KWrite) :
    ∃ k, k ≤ data.length ∧ (write fuel data res [] 0).1 = data.take k ∧
      ((write fuel data res [] 0).2.2 = true → k = data.length) := by
  obtain ⟨k, h1, h2, h3⟩ := write_spec fuel data res [] 0
  exact ⟨k, h1, by simpa using h2, h3⟩

/-- The same for writev with its iovec advance arithmetic and 256-slice batches. -/
theorem c18_writev_exact (fuel : Nat) (data : List (List Nat)) (res : List KWrite) :
    ∃ k, k ≤ data.flatten.length ∧ (writev fuel data res [] 0).1 = data.flatten.take k ∧
      ((writev fuel data res [] 0).2.2 = true → k = data.flatten.length) := by
  obtain ⟨k, h1, h2, h3⟩ := writev_spec fuel data res [] 0
  exact ⟨k, h1, by simpa using h2, h3⟩

def wInit (n : Nat) (queued : Nat) : WState := { ws := List.replicate n .idle, sendCh := queued }

theorem winv_init (n queued : Nat) : WInv (wInit n queued) :=
  have h0 : holders (wInit n queued) = 0 := by simp [wInit, holders, List.countP_replicate]
  ⟨h0.symm, by simp [wInit], Nat.zero_le _, Nat.zero_le _, nofun⟩

/-- Writer mutex: for any number of fast-path writers (wakeUpPeer / hotRestart) and the send loop, in every interleaving,
    at most one of them is ever inside the connection's write — events never interleave. -/
theorem c18_writer_mutex (n queued : Nat) (sched : List Who) :
    (runWS (wInit n queued) sched).maxInside ≤ 1 ∧ (runWS (wInit n queued) sched).inside ≤ 1 :=
  let h := runWS_inv _ sched (winv_init n queued)
  ⟨h.maxle, h.le⟩

/-- No lost wake-up for the send loop: whenever it is parked on notifyContinueWriteCh, either somebody still holds
    `writing` (and will post a token when releasing) or a token is already waiting. -/
theorem c18_sendloop_no_lost_wakeup (n queued : Nat) (sched : List Who) :
    (runWS (wInit n queued) sched).sl = .parked →
    (runWS (wInit n queued) sched).writing = true ∨ (runWS (wInit n queued) sched).token = true :=
  (runWS_inv _ sched (winv_init n queued)).wake

-- non-vacuity: a read with growth and partial consumption; a write with EAGAIN and partial counts; contention on `writing`
example :
    (onReadReady {} 10 { buf := [0, 0, 0, 0] } [.data [1, 2, 3], .data [4, 5, 6], .data [7, 8], .eagain] [4] []).2.1 = [[1, 2, 3, 4, 7, 8]] ∧
    (write 10 [1, 2, 3, 4, 5] [.n 2, .eagain, .n 9] [] 0) = ([1, 2, 3, 4, 5], 3, true) ∧
    (runWS (wInit 2 1) [some 0, none, none, some 1, some 0, none, none, none]).written = 2 := by decide

/-! ### one epoll event: write-ready is never lost, whatever else the event carries -/

/-- a writer parked on EAGAIN waits for one `writeReady`; what the kernel reports is the union of what happened since
    the last report (edge triggered), so the token must be posted whatever else the event carries -/
theorem c18_write_ready_not_lost (e : Events) (h : e.rdhup = false) (ho : e.out = true) :
    EvAct.writeReady ∈ handleEvent e := by
  simp [handleEvent, h, ho]

theorem c18_read_ready_not_lost (e : Events) (h : e.rdhup = false) (hi : e.in_ = true) :
    EvAct.readReady ∈ handleEvent e := by
  simp [handleEvent, h, hi]

/-- nothing is done that the event did not ask for, and a hang-up does nothing else -/
theorem c18_event_exact (e : Events) :
    (EvAct.writeReady ∈ handleEvent e ↔ e.rdhup = false ∧ e.out = true) ∧
    (EvAct.readReady ∈ handleEvent e ↔ e.rdhup = false ∧ e.in_ = true) ∧
    (EvAct.remoteClose ∈ handleEvent e ↔ e.rdhup = true) := by
  cases e with
  | mk r i o => cases r <;> cases i <;> cases o <;> simp [handleEvent]

example : handleEvent { in_ := true, out := true } = [.readReady, .writeReady] := by decide

end Props.C18

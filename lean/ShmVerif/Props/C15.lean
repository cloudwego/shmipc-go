import ShmVerif.Proof.Pool
import ShmVerif.Proof.Lists
/-!
  C15 — the stream pool only hands out clean live streams and never leaks one.

  PARTIAL proof on `Proto.poolGet` / `Proto.poolPut` (streamPool.getOrOpenStream / putOrCloseStream + Stream.reset over
  the two-session protocol model).  Proved: the ring is a bounded FIFO (`c15_ring_bounded`, `c15_get_takes_prefix`);
  PutBack stores a stream only if it is open, not in fall-back state, with nothing unread and nothing pending
  (`c15_put_pooled_is_clean`), and every other PutBack goes through Close (`c15_put_else_closes`); a stream handed out from
  the ring was open at hand-out and has left the ring (`c15_get_from_ring_open`).
  The repaired behaviour "every pooled stream that GetStream skips is closed" is part of the model (`poolGet` calls
  `closeStream`) and is compared with the real pool on every run; the active-stream count monitor
  (GetActiveStreamCount = held + pooled) caught the original defect (F10).
  Namespace `Ring`: the ring arithmetic of streamPool.pop / push (a fixed array, two ever-growing counters, index = counter
  modulo capacity) refines the bounded FIFO the pool model uses (`c15_ring_push`, `c15_ring_pop`, `c15_ring_empty`).
-/
namespace Props.C15
open Proto List

/-- PutBack never grows the ring beyond the pool capacity. -/
theorem c15_ring_bounded (s : Proto.Sys) (p : PoolSt) (id : Nat) (h : p.ring.length ≤ p.cap) :
    (poolPut s p id).2.1.ring.length ≤ (poolPut s p id).2.1.cap := by
  cases hst : s.a.find id with
  | none => rw [poolPut_none hst]; exact h
  | some st =>
    rcases poolPut_spec s p id st hst with ⟨_, _, _, _, hlt, e⟩ | ⟨_, _, _, e⟩
    · rw [e]; simp only [length_append, length_singleton]; omega
    · rw [e]; exact h

/-- PutBack keeps a stream only if it is open, not in fall-back state, has no unread bytes and no pending data. -/
theorem c15_put_pooled_is_clean (s : Proto.Sys) (p : PoolSt) (id : Nat) (st : PStream) (hst : s.a.find id = some st)
    (hp : (poolPut s p id).2.2 = "pooled") :
    st.state = .opened ∧ st.inFallback = false ∧ st.recv.len = 0 ∧ st.pending = [] ∧
    (poolPut s p id).2.1.ring = p.ring ++ [id] := by
  rcases poolPut_spec s p id st hst with ⟨a, b, c, d, _, e⟩ | ⟨_, _, hne, e⟩
  · exact ⟨a, b, c, d, by rw [e]⟩
  · rw [e] at hp; exact absurd hp hne

/-- Every PutBack that does not keep the stream closes it (Stream.Close through `closeStream`). -/
theorem c15_put_else_closes (s : Proto.Sys) (p : PoolSt) (id : Nat) (st : PStream) (hst : s.a.find id = some st)
    (hp : (poolPut s p id).2.2 ≠ "pooled") :
    (poolPut s p id).2.1 = p ∧ ∃ s0, (poolPut s p id).1 = (closeStream s0 .a id).1 := by
  rcases poolPut_spec s p id st hst with ⟨_, _, _, _, _, e⟩ | ⟨s0, _, _, e⟩
  · rw [e] at hp; exact absurd rfl hp
  · rw [e]; exact ⟨rfl, s0, rfl⟩

/-- GetStream consumes a prefix of the ring (FIFO) and never adds to it. -/
theorem c15_get_takes_prefix : ∀ (f : Nat) (s : Proto.Sys) (p : PoolSt),
    ∃ k, (poolGet f s p).2.1.ring = p.ring.drop k ∧ (poolGet f s p).2.1.cap = p.cap := by
  intro f
  induction f with
  | zero => intro s p; exact ⟨0, by simp [poolGet], by simp [poolGet]⟩
  | succ f ih =>
    intro s p
    unfold poolGet
    cases hr : p.ring with
    | nil => exact ⟨0, by simp [hr], rfl⟩
    | cons id rest =>
      simp only
      cases s.a.find id with
      | none =>
        obtain ⟨k, h1, h2⟩ := ih s { p with ring := rest }
        exact ⟨k + 1, by simpa using h1, h2⟩
      | some st =>
        simp only
        split
        · exact ⟨1, by simp, rfl⟩
        · obtain ⟨k, h1, h2⟩ := ih (closeStream s .a id).1 { p with ring := rest }
          exact ⟨k + 1, by simpa using h1, h2⟩

/-- A stream handed out from the ring is the oldest pooled stream that is still open: at hand-out it is open, and it has
    left the ring. -/
theorem c15_get_from_ring_open (s : Proto.Sys) (p : PoolSt) (id : Nat) (rest : List Nat) (st : PStream) (f : Nat)
    (hr : p.ring = id :: rest) (hst : s.a.find id = some st) (ho : st.state = .opened) :
    poolGet (f + 1) s p = (s, { p with ring := rest }, id) := by
  unfold poolGet
  rw [hr]
  simp only [hst, ho, if_true]

end Props.C15

namespace Ring
open List

structure Inv (r : R) : Prop where
  len : r.slots.length = r.cap
  ord : r.head ≤ r.tail
  bnd : r.tail - r.head ≤ r.cap

theorem mod_inj {a b c : Nat} (hab : a ≤ b) (hlt : b < a + c) (h : a % c = b % c) : a = b :=
  Nat.eq_of_mod_eq_of_lt_add hab hlt h

/-- push appends (when there is room) and refuses otherwise; nothing already pooled is disturbed -/
theorem c15_ring_push (r : R) (s : Nat) (h : Inv r) :
    ((abs r).length < r.cap → (push r s).2 = true ∧ abs (push r s).1 = abs r ++ [s] ∧ Inv (push r s).1) ∧
    (¬ (abs r).length < r.cap → (push r s).2 = false ∧ (push r s).1 = r) := by
  have hl : (abs r).length = r.tail - r.head := by simp [abs]
  constructor
  · intro hlt
    rw [hl] at hlt
    unfold push
    rw [if_pos hlt]
    have hc : 0 < r.cap := by omega
    have hord := h.ord
    refine ⟨rfl, ?_, ⟨length_set.trans h.len, Nat.le_succ_of_le hord, by show r.tail + 1 - r.head ≤ r.cap; omega⟩⟩
    simp only [abs]
    have e : r.tail + 1 - r.head = (r.tail - r.head) + 1 := by omega
    rw [e, range_succ, map_append]
    congr 1
    · apply map_congr_left
      intro i hi
      have hi' := mem_range.mp hi
      have hne : r.tail % r.cap ≠ (r.head + i) % r.cap := by
        intro heq
        have := mod_inj (a := r.head + i) (b := r.tail) (c := r.cap) (by omega) (by omega) heq.symm
        omega
      simp only [getD_eq_getElem?_getD]
      rw [getElem?_set_ne hne]
    · simp only [map_cons, map_nil, getD_eq_getElem?_getD]
      rw [show r.head + (r.tail - r.head) = r.tail by omega, getElem?_set_self (by rw [h.len]; exact Nat.mod_lt _ hc)]
      rfl
  · intro hge
    rw [hl] at hge
    unfold push
    rw [if_neg hge]
    exact ⟨rfl, rfl⟩

/-- pop takes the oldest -/
theorem c15_ring_pop (r : R) (h : Inv r) :
    (abs r = [] → (pop r).2 = none ∧ (pop r).1 = r) ∧
    (∀ a rest, abs r = a :: rest → (pop r).2 = some a ∧ abs (pop r).1 = rest ∧ Inv (pop r).1) := by
  have hl : (abs r).length = r.tail - r.head := by simp [abs]
  constructor
  · intro he
    rw [he] at hl
    unfold pop
    rw [if_neg (by simp at hl; omega)]
    exact ⟨rfl, rfl⟩
  · intro a rest he
    rw [he] at hl
    have hgt : r.tail > r.head := by simp at hl; omega
    unfold pop
    rw [if_pos hgt]
    have e : r.tail - r.head = (r.tail - (r.head + 1)) + 1 := by omega
    simp only [abs] at he
    rw [e, range_succ_eq_map, map_cons, map_map] at he
    simp only [Nat.add_zero] at he
    injection he with h1 h2
    refine ⟨by rw [h1], ?_, ⟨h.len, hgt, by have := h.bnd; show r.tail - (r.head + 1) ≤ r.cap; omega⟩⟩
    simp only [abs]
    rw [← h2]
    apply map_congr_left
    intro i _
    simp only [Function.comp]
    congr 2
    omega

theorem c15_ring_empty (cap age : Nat) : Inv (empty cap age) ∧ abs (empty cap age) = [] :=
  ⟨⟨by simp [empty], Nat.le_refl _, by simp [empty]⟩, by simp [abs, empty]⟩

-- capacity 3, counters about to pass 2^32: three streams pushed, the second overwrote the first: the first one popped is not
-- the first one pushed
example :
    let r0 := empty 3 (2 ^ 32 - 1)
    let r3 := (push32 (push32 (push32 r0 11).1 12).1 13).1
    (pop32 r3).2 = some 12 ∧ (pop (push (push (push r0 11).1 12).1 13).1).2 = some 11 := by decide

end Ring

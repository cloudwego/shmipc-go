import ShmVerif.Props.C06
import ShmVerif.Proof.Payload
/-!
  C08 — zero-copy read results stay valid until they are released.

  PARTIAL proof (see the end of this comment). A zero-copy result of ReadBytes/Peek is a view `[lo, hi)` of the payload of one shared-memory slot.
  Proved: no BufferReader operation of the holder, no recycling of consumed slices, no ReleasePreviousRead ever changes a
  payload byte of ANY slot (`c08_reader_ops_preserve_payload`, `c08_release_preserves_payload`); a slice that has
  handed out a zero-copy view (`curPinned`) is parked in the pinned list, never recycled, when the reader moves past it
  (`c08_pinned_not_recycled`); ReleasePreviousRead empties the pinned list, returning those slots to the allocator
  (`c08_release_returns`).
  `c08_writers_leave_foreign_payload`: writes by OTHER holders cannot reach a parked slot - any sequence of WriteBytes /
  WriteByte calls on any send buffer touches only the payload of that buffer's own slices and of slots it takes from the
  free lists (frame conclusion of the writer theorems of `Proof/LBWrite`).
  For a pair of streams the ownership partition is one invariant over readers, writers and messages in flight (`LB.PI`,
  `Proof/SlotSys`): `c08_pair_no_foreign_write`, `c08_pair_view_stable` - no operation of either end changes a payload byte
  of a slot that a receive buffer lists or has parked, or of a message in flight.
  NOT proved: Reserve and ReleaseReadAndReuse (not operations of `LB.POp`), holders outside the pair; covered on the real
  code by the borrow monitor (every outstanding view is re-compared after every later operation, including unrelated
  allocate-and-scribble).
-/
namespace Props.C08
open LB List Props.C06

/-- Whatever the reader does next (any enabled sequence of ReadBytes / Peek / Discard, across any slice boundaries, with the
    recycling of every slice it consumes), no payload byte of any slot changes: outstanding zero-copy views keep their
    contents. -/
theorem c08_reader_ops_preserve_payload (ops : List ReadOp) (m : Mem) (l : LBuf)
    (hwf : SlicesWF m l.sl) (hlen : l.len = (content m l.sl).length) (hen : Enabled (content m l.sl) ops) :
    ∃ m' l' outs, implRun m l ops = some (m', l', outs) ∧ ∀ j, (m'.slot j).data = (m.slot j).data := by
  obtain ⟨m', l', outs, h1, _, _, _, _, h6⟩ := c06_reader_refines_bytequeue ops m l hwf hlen hen
  exact ⟨m', l', outs, h1, h6⟩

/-- ReleasePreviousRead recycles slots but never alters a payload byte. -/
theorem c08_release_preserves_payload (m : Mem) (l : LBuf) (j : Nat) :
    ((l.release m).1.slot j).data = (m.slot j).data :=
  (release_cases m l).2.2.1 j

/-- When the reader moves past a shared-memory slice that has handed out a zero-copy view, the slice is parked in the
    pinned list and shared memory (headers, free lists, payloads) is left untouched: it is not recycled. -/
theorem c08_pinned_not_recycled (m : Mem) (l : LBuf) (s : BS) (r : List BS) (hsl : l.sl = s :: r)
    (hshm : s.isShm = true) (hpin : l.curPinned = true) :
    ∃ l', l.readNext m = some (m, l') ∧ l'.pinned = l.pinned ++ [s] ∧ l'.sl = r := by
  obtain ⟨l', ⟨e, e2⟩ | ⟨h, _⟩, e1, _⟩ := readNext_eq (m := m) hsl
  · exact ⟨l', e, e2, e1⟩
  · exact absurd ⟨hshm, hpin⟩ h

/-- The fast paths of ReadBytes and Peek mark the front slice as pinned before returning the view. -/
theorem c08_fast_path_pins (m : Mem) (l : LBuf) (n : Nat) (f : BS) (r : List BS) (hsl : l.sl = f :: r)
    (hpos : 0 < n) (hf : f.size ≥ n) (hne : f.size ≠ 0) :
    ∃ m' l' d, l.readBytes m n = some (m', l', d) ∧ l'.curPinned = true := by
  unfold LBuf.readBytes
  have h0 : ¬ n = 0 := by omega
  simp only [h0, if_false, LBuf.front?, hsl, head?_cons, hne, hf, if_true]
  exact ⟨_, _, _, rfl, rfl⟩

/-- After ReleasePreviousRead nothing is parked any more: every parked slot went back through recycleBuffer. -/
theorem c08_release_returns (m : Mem) (l : LBuf) : (l.release m).2.pinned = [] :=
  (release_cases m l).1

/-- Writes by OTHER holders cannot reach a borrowed slice: whatever sequence of WriteBytes / WriteByte calls any send
    buffer of the session performs - allocating from the free lists, spilling to the heap - the payload of a slot that is
    neither one of that buffer's own slices nor in a free list is not touched.  A slice parked in a reader's pinned list
    (`c08_pinned_not_recycled`) is exactly such a slot until ReleasePreviousRead returns it. -/
theorem c08_writers_leave_foreign_payload (ops : List WriteOp) (m : Mem) (l : LBuf) (hw : m.WF) (hb : WBuf m l) :
    ∃ m' l', wimpl m l ops = some (m', l') ∧
      ∀ p, p ∉ l.sl.filterMap (·.slot) → p ∉ m.free.flatten → (m'.slot p).data = (m.slot p).data := by
  obtain ⟨m', l', e, _, _, _, _, hfr⟩ := c06_writer_refines_bytequeue ops m l hw hb
  exact ⟨m', l', e, hfr.data⟩

open LB in
/-- **No foreign write.** In a pair of streams over one memory (`LB.PSys`; any reachable state, i.e. any state satisfying the
    pair invariant), whatever operation either end performs - writer calls allocating and filling buffers, Flush on either
    transport, readMore, any reader call, ReleasePreviousRead, Close - the payload of every slot that a receive buffer lists
    or has parked (what ReadBytes / Peek results point into) and of every slot of a message still in flight is left
    byte for byte as it was.  So a zero-copy result can only change after its own slot has left the receive buffer, which
    the buffer-level theorems above tie to ReleasePreviousRead / Close. -/
theorem c08_pair_no_foreign_write {N : Nat} {s s' : PSys} {op : POp} (h : PInv N s) (e : pstep s op = some s') (p : Nat)
    (hp : p ∈ heldL s.a.recv ∨ p ∈ heldL s.b.recv ∨ p ∈ flight s.m s.a.pending ∨ p ∈ flight s.m s.b.pending) :
    (s'.m.slot p).data = (s.m.slot p).data := by
  -- the partition: a slot held by a receive buffer or in flight is not free and in no send buffer
  have key : ∀ {X Y : StreamM} {i : Buf}, PI N s.m X Y → i ≠ .send → p ∈ held s.m X i →
      p ∉ s.m.free.flatten ∧ p ∉ heldL X.send ∧ p ∉ heldL Y.send := fun h hi hp =>
    ⟨(h.apart hp).1, (h.apart hp).2.1 .send (Ne.symm hi), fun hx => (h.apart hp).2.2 (held_sub .send hx)⟩
  obtain ⟨hf, ha, hb⟩ : p ∉ s.m.free.flatten ∧ p ∉ heldL s.a.send ∧ p ∉ heldL s.b.send := by
    rcases hp with hp | hp | hp | hp
    · exact key h (i := .recv) (by decide) hp
    · exact (key (PI.symm h) (i := .recv) (by decide) hp).imp_right And.symm
    · exact key h (i := .pend) (by decide) hp
    · exact (key (PI.symm h) (i := .pend) (by decide) hp).imp_right And.symm
  exact pstep_payload h e p hf ha hb

open LB in
/-- the same along a whole run, for a slot that stays where it is: as long as slot `p` is held by a receive buffer or in
    flight after every step, its payload at the end is its payload at the start -/
theorem c08_pair_view_stable {N : Nat} : ∀ (ops : List POp) (s s' : PSys), PInv N s → prun s ops = some s' →
    (∀ (k : Nat) (sk : PSys), k ≤ ops.length → prun s (ops.take k) = some sk →
      (p ∈ heldL sk.a.recv ∨ p ∈ heldL sk.b.recv ∨ p ∈ flight sk.m sk.a.pending ∨ p ∈ flight sk.m sk.b.pending)) →
    (s'.m.slot p).data = (s.m.slot p).data
  | [], s, s', _, e, _ => by
    simp only [prun, Option.some.injEq] at e
    subst e; rfl
  | op :: r, s, s', h, e, hall => by
    unfold prun at e
    cases hs : pstep s op with
    | none => rw [hs] at e; cases e
    | some s1 =>
      rw [hs] at e
      have h0 := hall 0 s (Nat.zero_le _) (by simp [prun])
      have d1 := c08_pair_no_foreign_write h hs p h0
      have d2 := c08_pair_view_stable r s1 s' (pstep_inv h hs) e (fun k sk hk hrun => by
        apply hall (k + 1) sk (by simp; omega)
        simp only [List.take_succ_cons, prun, hs]
        exact hrun)
      rw [d2, d1]

end Props.C08

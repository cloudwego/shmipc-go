import ShmVerif.Proof.Wake
/-!
  C05 — an enqueued element is never stranded without a wake-up.

  `Reachable s`: the state after ANY schedule of producer steps (put | CAS workingFlag (+ `writing`) | write the event)
  and consumer steps (take an event | pop | store 0 | re-check | store 1), for ANY number of producers, ANY number of
  operations per producer and ANY queue capacity.
-/
namespace Props.C05
open Wake

def Reachable (s : State) : Prop := ∃ cap counts sched, s = run (init cap counts) sched

theorem reachable_inv {s : State} (h : Reachable s) : Inv s := by
  obtain ⟨cap, counts, sched, rfl⟩ := h
  exact run_inv _ sched (inv_init cap counts)

/-- A non-empty queue with an idle consumer always has a notification still in flight, or a producer that has enqueued
    and is about to test-and-set the flag / about to write the event it owes. -/
theorem c05_no_stranded {s : State} (hr : Reachable s) (hq : s.qlen > 0) :
    s.cons ≠ .idle ∨ s.inflight > 0 ∨ HasPc s.prods .cas ∨ HasPc s.prods .write := by
  have h := reachable_inv hr
  by_cases hc : s.cons = .idle
  · cases hf : s.flag with
    | false => exact (h.clearCovered hq hf).imp_right fun h1 => Or.inr (Or.inl h1)
    | true => exact Or.inr ((h.flagBacked hf (Or.inl hc)).imp_right Or.inr)
  · exact Or.inl hc

/-- Quiescence: once producers have stopped, every notification was delivered and handled and the consumer returned,
    the queue is empty — no element needs a later, unrelated send to dislodge it. -/
theorem c05_quiescent_empty {s : State} (hr : Reachable s) (hdone : ∀ p ∈ s.prods, p.pc = .done)
    (hin : s.inflight = 0) (hidle : s.cons = .idle) : s.qlen = 0 := by
  rcases Nat.eq_zero_or_pos s.qlen with h0 | hpos
  · exact h0
  · rcases c05_no_stranded hr hpos with h1 | h1 | ⟨p, hp, hpc⟩ | ⟨p, hp, hpc⟩
    · exact absurd hidle h1
    · omega
    · have := hdone p hp; rw [this] at hpc; cases hpc
    · have := hdone p hp; rw [this] at hpc; cases hpc

-- non-vacuity: the slow-path schedule of the corpus reaches a state with qlen > 0, consumer not idle
example :
    let s := run (init 8 [2, 1]) [some 0, some 0, some 0, none, none, none, none, some 0, some 0, none, none, none, none, none, some 1, some 1]
    s.qlen = 1 ∧ s.inflight = 1 ∧ s.events = 2 ∧ s.writing = true := by decide

end Props.C05

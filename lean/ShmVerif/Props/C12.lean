import ShmVerif.Model.Handshake
/-!
  C12 — the handshake yields one shared memory and the lower version, or errors on both ends.

  `client memType mem inp tail` / `server inp tail` are the two real ends as functions of EVERY possible input: any
  list of messages from the peer (honest, reordered, of the wrong type or version, unmappable memory) followed by the
  connection closing or by silence until the time-out.
-/
namespace Props.C12
open Handshake

/-- both real ends, memfd mapping: success on both, version 3 = min(3, 3), and the server maps the client's memory -/
theorem c12_pair_memfd (mem : Nat) :
    (pair .memfd mem).1.res = none ∧ (pair .memfd mem).2.res = none ∧
    (pair .memfd mem).1.version = 3 ∧ (pair .memfd mem).2.version = 3 ∧
    (pair .memfd mem).1.mapped = some mem ∧ (pair .memfd mem).2.mapped = some mem := by
  simp [pair, client, server, next, maxVersion, canReply]

/-- both real ends, file mapping (version-2 exchange): success on both with version 2 and the same memory -/
theorem c12_pair_file (mem : Nat) :
    (pair .file mem).1.res = none ∧ (pair .file mem).2.res = none ∧
    (pair .file mem).1.version = 2 ∧ (pair .file mem).2.version = 2 ∧
    (pair .file mem).1.mapped = some mem ∧ (pair .file mem).2.mapped = some mem := by
  simp [pair, client, server, next]

/-- a version-3 client reports success only after it has read, in this order, the server's version, the go-ahead for the
    descriptors and the final acknowledgement — whatever else the peer sends, closes or withholds -/
theorem c12_v3_client_ok_needs_ack (mem : Nat) (inp : List Msg) (tail : Tail)
    (hok : (client .memfd mem inp tail).res = none) (hv : (client .memfd mem inp tail).version = 3) :
    ∃ sv rest, inp = .exVer sv :: .ackReadyFd :: .ackShm :: rest ∧ 3 ≤ sv := by
  unfold client at hok hv
  simp only [next] at hok hv
  cases inp with
  | nil => simp at hok
  | cons m r1 =>
    cases m <;> simp at hok hv
    rename_i sv
    split at hok
    · rename_i hch
      cases r1 with
      | nil => simp at hok
      | cons m2 r2 =>
        simp at hok
        split at hok
        · rename_i hm2
          cases r2 with
          | nil => simp at hok
          | cons m3 r3 =>
            simp at hok
            split at hok
            · rename_i hm3
              refine ⟨sv, r3, ?_, ?_⟩
              · rw [hm2, hm3]
              · simp [maxVersion] at hch; omega
            · simp at hok
        · simp at hok
    · split at hok
      · rename_i h3 h2; simp [h2] at hv
      · simp at hok

/-- the shape every server result has -/
def AckMeansMapped (r : Result) : Prop := Msg.ackShm ∈ r.sent → r.res = none ∧ r.mapped.isSome = true

/-- failure always ends with nothing mapped on that end (newSession's clean-up; the real descriptors, mappings and files
    are counted by the harness) -/
def FailMapsNothing (r : Result) : Prop := ∀ e, r.res = some e → r.mapped = none

/-- one walk over the server's branches for both shapes; the first message decides most of them, so it is taken apart
    before the remaining tests are split -/
theorem server_shape (inp : List Msg) (tail : Tail) : AckMeansMapped (server inp tail) ∧ FailMapsNothing (server inp tail) := by
  rcases inp with _ | ⟨m, inp1⟩
  · simp [server, next, AckMeansMapped, FailMapsNothing]
  · cases m <;> simp only [server, next] <;> (repeat' split) <;> simp_all [AckMeansMapped, FailMapsNothing]

/-- the server writes the final acknowledgement only when it has succeeded and mapped memory: with
    `c12_v3_client_ok_needs_ack`, in the version-3 exchange the client cannot succeed against a server that failed -/
theorem c12_server_ack_means_mapped (inp : List Msg) (tail : Tail) : AckMeansMapped (server inp tail) :=
  (server_shape inp tail).1

theorem c12_failure_maps_nothing_client (mt : Mem) (mem : Nat) (inp : List Msg) (tail : Tail) :
    FailMapsNothing (client mt mem inp tail) := by
  unfold client
  simp only [next]
  repeat' split
  all_goals simp [FailMapsNothing]

theorem c12_failure_maps_nothing_server (inp : List Msg) (tail : Tail) : FailMapsNothing (server inp tail) :=
  (server_shape inp tail).2

/-- in particular when the acknowledgement itself cannot be written (the client stopped receiving, or died, after handing
    over its memory): the server had mapped the memory, fails, and ends with nothing mapped -/
theorem c12_ack_write_failure_unmaps (v mem : Nat) :
    (server [.exVer 3, .metaFile v mem true] .deaf).res = some .eof ∧ (server [.exVer 3, .metaFile v mem true] .deaf).mapped = none ∧
    (server [.exVer 3, .metaMemfd v mem, .fds mem true] .deaf).res = some .eof ∧
    (server [.exVer 3, .metaMemfd v mem, .fds mem true] .deaf).mapped = none := by
  simp [server, next, canReply, maxVersion]

/-- the negotiated version is the lower of the two: the server stamps min(client's, 3) -/
def ServerVersionMin (cv : Nat) (r : Result) : Prop := r.version = min cv maxVersion

theorem c12_version_is_min_server (rest : List Msg) (tail : Tail) : ServerVersionMin 3 (server (.exVer 3 :: rest) tail) := by
  simp only [server, next, ServerVersionMin]
  repeat' split
  all_goals first | rfl | contradiction

/-- ... and a version-3 client that succeeds runs version min(3, server's) -/
theorem c12_version_is_min_client (mem : Nat) (sv : Nat) (rest : List Msg) (tail : Tail)
    (hok : (client .memfd mem (.exVer sv :: rest) tail).res = none) :
    (client .memfd mem (.exVer sv :: rest) tail).version = min maxVersion sv := by
  unfold client at hok ⊢
  simp only [next] at hok ⊢
  repeat' split at hok
  all_goals simp_all

/-- a peer that never answers ends in the time-out class, a peer that closes in the end-of-stream class (the descriptor
    read reports a closed connection as a protocol error) — never in success -/
theorem c12_no_input_fails (mt : Mem) (mem : Nat) (tail : Tail) :
    (mt = .memfd → (client mt mem [] tail).res = some tail.err) ∧ (server [] tail).res = some tail.err := by
  constructor
  · intro h; subst h; simp [client, next]
  · simp [server, next]

/-! ### known finding (F7): the version-2 exchange has no reply, so the client succeeds alone -/

/-- file mapping: the client reports success having read nothing, while the server it talks to fails to map the paths -/
theorem c12_v2_one_sided_witness :
    (client .file 1 [] .eof).res = none ∧ (server [.metaFile 2 1 false] .eof).res = some .mapping := by decide

end Props.C12

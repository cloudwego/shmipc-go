import ShmVerif.Model.Mux
/-!
  The message-level protocol model, the ground the proofs about it stand on: what `setMe` / `setCh` do to each field, the
  per-stream projections of a channel (`qdata`, `kdata`; `qItems`, `kItems` with the close notification), the wake-up
  discipline of a channel (`ChanOK`), the stream table (`find`, `upd`, `getStream`, `closedEnd`), and for each operation the
  one lemma that says what it does (`flush_cases`, `closeStream_cases`, `offer_cases`, `deliver_cases`, `getStream_cases`).
  `Proof/MuxInv` proves the per-stream FIFO invariant on it, `Proof/MuxCons` counts messages.
-/
namespace Mux
open List

@[simp] theorem upd_same {α} (f : Side → α) (x : Side) (v : α) : upd f x v x = v := by simp [upd]
theorem upd_other {α} (f : Side → α) (x y : Side) (v : α) (h : y ≠ x) : upd f x v y = f y := by simp [upd, h]
theorem upd_upd {α} (f : Side → α) (x : Side) (a b : α) : upd (upd f x a) x b = upd f x b := by
  funext y; unfold upd; split <;> rfl

@[simp] theorem setMe_ch (s : Sys) (x : Side) (e : MEnd) : (s.setMe x e).ch = s.ch := rfl
@[simp] theorem setCh_ends (s : Sys) (x : Side) (c : Chan) : (s.setCh x c).ends = s.ends := rfl
@[simp] theorem setCh_me (s : Sys) (x y : Side) (c : Chan) : (s.setCh x c).me y = s.me y := rfl
@[simp] theorem setMe_me_same (s : Sys) (x : Side) (e : MEnd) : (s.setMe x e).me x = e := by simp [Sys.setMe, Sys.me]
theorem setMe_me_other (s : Sys) (x y : Side) (e : MEnd) (h : y ≠ x) : (s.setMe x e).me y = s.me y := by
  simp [Sys.setMe, Sys.me, upd, h]
@[simp] theorem setCh_ch_same (s : Sys) (x : Side) (c : Chan) : (s.setCh x c).ch x = c := by simp [Sys.setCh]
theorem setCh_ch_other (s : Sys) (x y : Side) (c : Chan) (h : y ≠ x) : (s.setCh x c).ch y = s.ch y := by
  simp [Sys.setCh, upd, h]
@[simp] theorem setMe_sent (s : Sys) (x : Side) (e : MEnd) : (s.setMe x e).sent = s.sent := rfl
@[simp] theorem setMe_arrived (s : Sys) (x : Side) (e : MEnd) : (s.setMe x e).arrived = s.arrived := rfl
@[simp] theorem setMe_recreated (s : Sys) (x : Side) (e : MEnd) : (s.setMe x e).recreated = s.recreated := rfl
@[simp] theorem setCh_sent (s : Sys) (x : Side) (c : Chan) : (s.setCh x c).sent = s.sent := rfl
@[simp] theorem setCh_arrived (s : Sys) (x : Side) (c : Chan) : (s.setCh x c).arrived = s.arrived := rfl
@[simp] theorem setCh_recreated (s : Sys) (x : Side) (c : Chan) : (s.setCh x c).recreated = s.recreated := rfl

-- The second spelling (`ch_setMe` is `setMe_ch`, `me_setCh` is `setCh_me`; `me_setMe`, `ch_setCh` are the `_same` / `_other`
-- pairs as one `if`), and the fields that the conservation proof reads.  Both spellings are in use.
@[simp] theorem me_setMe (s : Sys) (x y : Side) (e : MEnd) : (s.setMe x e).me y = if y = x then e else s.me y := by
  simp [Sys.setMe, Sys.me, upd]
@[simp] theorem ch_setMe (s : Sys) (x : Side) (e : MEnd) : (s.setMe x e).ch = s.ch := rfl
@[simp] theorem me_setCh (s : Sys) (x y : Side) (c : Chan) : (s.setCh x c).me y = s.me y := rfl
@[simp] theorem ch_setCh (s : Sys) (x y : Side) (c : Chan) : (s.setCh x c).ch y = if y = x then c else s.ch y := by
  simp [Sys.setCh, upd]
@[simp] theorem retired_setMe (s : Sys) (x : Side) (e : MEnd) : (s.setMe x e).retired = s.retired := rfl
@[simp] theorem retired_setCh (s : Sys) (x : Side) (c : Chan) : (s.setCh x c).retired = s.retired := rfl
@[simp] theorem fresh_setMe (s : Sys) (x : Side) (e : MEnd) : (s.setMe x e).fresh = s.fresh := rfl
@[simp] theorem fresh_setCh (s : Sys) (x : Side) (c : Chan) : (s.setCh x c).fresh = s.fresh := rfl

theorem setMe_setMe (s : Sys) (x : Side) (a b : MEnd) : (s.setMe x a).setMe x b = s.setMe x b := by
  simp only [Sys.setMe, upd_upd]

@[simp] theorem peer_ne (x : Side) : x.peer ≠ x := by cases x <;> simp [Side.peer]
theorem peer_peer (x : Side) : x.peer.peer = x := by cases x <;> rfl
theorem eq_or_peer (x y : Side) : y = x ∨ y = x.peer := by cases x <;> cases y <;> simp [Side.peer]

def qdata (j : Nat) (q : List QEl) : List Nat := (q.filter (fun el => el.sid == j && !el.isClose)).map (·.msg)
def kdata (j : Nat) (k : List Ev) : List Nat :=
  k.filterMap (fun ev => match ev with | .fb i m => if i = j then some m else none | _ => none)
def beforePoll (k : List Ev) : List Ev := k.takeWhile (fun ev => ev != .polling)

def tagOf (x : Side) (j : Nat) (l : List (Side × Nat × Nat)) : List Nat :=
  l.filterMap (fun t => if t.1 = x ∧ t.2.1 = j then some t.2.2 else none)

theorem tagOf_append (x : Side) (j : Nat) (l1 l2 : List (Side × Nat × Nat)) :
    tagOf x j (l1 ++ l2) = tagOf x j l1 ++ tagOf x j l2 := by simp [tagOf, filterMap_append]

theorem tagOf_single (x z : Side) (j i m : Nat) : tagOf x j [(z, i, m)] = if z = x ∧ i = j then [m] else [] := by
  unfold tagOf; rw [filterMap_cons]; split <;> simp_all

theorem tagOf_snoc_other (x z : Side) (j i m : Nat) (l : List (Side × Nat × Nat)) (hz : z ≠ x ∨ i ≠ j) :
    tagOf x j (l ++ [(z, i, m)]) = tagOf x j l := by
  rw [tagOf_append, tagOf_single, if_neg (fun h => hz.elim (· h.1) (· h.2)), append_nil]

theorem tagOf_snoc_same (x : Side) (j m : Nat) (l : List (Side × Nat × Nat)) :
    tagOf x j (l ++ [(x, j, m)]) = tagOf x j l ++ [m] := by
  rw [tagOf_append, tagOf_single, if_pos ⟨rfl, rfl⟩]

theorem tagOf_nil_of_side {x y : Side} (j : Nat) {l : List (Side × Nat × Nat)} (hl : ∀ t ∈ l, t.1 = y) (h : x ≠ y) :
    tagOf x j l = [] := by
  simp only [tagOf, filterMap_eq_nil_iff]
  intro t ht
  exact if_neg fun hh => h (hh.1.symm.trans (hl t ht))

theorem qdata_append (j : Nat) (a b : List QEl) : qdata j (a ++ b) = qdata j a ++ qdata j b := by
  simp [qdata, filter_append]
theorem kdata_append (j : Nat) (a b : List Ev) : kdata j (a ++ b) = kdata j a ++ kdata j b := by
  simp [kdata, filterMap_append]
theorem qdata_single (j i m : Nat) : qdata j [{ sid := i, msg := m, isClose := false }] = if i = j then [m] else [] := by
  by_cases h : i = j <;> simp [qdata, h]
theorem qdata_single_close (j i m : Nat) : qdata j [{ sid := i, msg := m, isClose := true }] = [] := by simp [qdata]
theorem kdata_cons_polling (j : Nat) (r : List Ev) : kdata j (Ev.polling :: r) = kdata j r := rfl
theorem kdata_cons_close (j i : Nat) (r : List Ev) : kdata j (Ev.close i :: r) = kdata j r := rfl
theorem kdata_cons_fb (j i m : Nat) (r : List Ev) : kdata j (Ev.fb i m :: r) = if i = j then m :: kdata j r else kdata j r := by
  by_cases h : i = j <;> simp [kdata, h]

theorem beforePoll_cons (e : Ev) (k : List Ev) : beforePoll (e :: k) = if e = .polling then [] else e :: beforePoll k := by
  cases e <;> rfl

theorem beforePoll_append_of_mem (k : List Ev) (e : List Ev) (h : Ev.polling ∈ k) : beforePoll (k ++ e) = beforePoll k := by
  induction k with
  | nil => cases h
  | cons ev r ih =>
    rw [cons_append, beforePoll_cons, beforePoll_cons]
    split
    · rfl
    · next hp => rw [ih ((mem_cons.mp h).resolve_left (Ne.symm hp))]

theorem beforePoll_subset (k : List Ev) : ∀ ev ∈ beforePoll k, ev ∈ k := fun _ h => (takeWhile_subset _) h

/-- a queue element says what a connection event says -/
def QEl.ev (el : QEl) : Ev := if el.isClose then .close el.sid else .fb el.sid el.msg

/-- what an event is to stream `j`: `some (some m)` a data message, `some none` its close notification, `none` nothing -/
def Ev.item (j : Nat) : Ev → Option (Option Nat)
  | .polling => none
  | .close i => if i = j then some none else none
  | .fb i m => if i = j then some (some m) else none

theorem item_fb_eq {i j m : Nat} {it : Option Nat} : (Ev.fb i m).item j = some it ↔ i = j ∧ it = some m := by
  show (if i = j then some (some m) else none) = some it ↔ _
  split <;> simp [*, eq_comm]
theorem item_close_eq {i j : Nat} {it : Option Nat} : (Ev.close i).item j = some it ↔ i = j ∧ it = none := by
  show (if i = j then some none else none) = some it ↔ _
  split <;> simp [*, eq_comm]

/-- the messages (`some m`) and the close notification (`none`) of stream `j` on a connection, in order -/
def kItems (j : Nat) (k : List Ev) : List (Option Nat) := k.filterMap (Ev.item j)
/-- the same for a queue, each element read as the event that says the same (`QEl.ev`) -/
def qItems (j : Nat) (q : List QEl) : List (Option Nat) := kItems j (q.map QEl.ev)

theorem kItems_append (j : Nat) (a b : List Ev) : kItems j (a ++ b) = kItems j a ++ kItems j b := filterMap_append
theorem kItems_cons (j : Nat) (ev : Ev) (k : List Ev) : kItems j (ev :: k) = (ev.item j).toList ++ kItems j k := by
  rw [kItems, filterMap_cons]; cases ev.item j <;> rfl
theorem kItems_single (j : Nat) (ev : Ev) : kItems j [ev] = (ev.item j).toList := by rw [kItems_cons]; exact append_nil _
theorem qItems_cons (j : Nat) (el : QEl) (q : List QEl) : qItems j (el :: q) = (el.ev.item j).toList ++ qItems j q :=
  kItems_cons j el.ev _
theorem qItems_snoc (j : Nat) (q : List QEl) (el : QEl) : qItems j (q ++ [el]) = qItems j q ++ (el.ev.item j).toList := by
  rw [qItems, map_append, kItems_append, map_singleton, kItems_single]; rfl

theorem kItems_data (j : Nat) (k : List Ev) : (kItems j k).filterMap id = kdata j k := by
  induction k with
  | nil => rfl
  | cons ev k ih =>
    rw [kItems_cons, filterMap_append, ih]
    cases ev with
    | polling => rfl
    | close i => show filterMap id (if i = j then some none else none).toList ++ _ = kdata j k; split <;> rfl
    | fb i m =>
      rw [kdata_cons_fb]
      show filterMap id (if i = j then some (some m) else none).toList ++ _ = _
      split <;> rfl

theorem qItems_data (j : Nat) (q : List QEl) : (qItems j q).filterMap id = qdata j q := by
  induction q with
  | nil => rfl
  | cons el q ih =>
    rw [qItems_cons, filterMap_append, ih]
    by_cases h : el.sid = j <;> cases hc : el.isClose <;> simp [QEl.ev, Ev.item, h, hc, qdata]

theorem mem_kItems_none {j : Nat} {k : List Ev} : none ∈ kItems j k ↔ Ev.close j ∈ k := by
  rw [kItems, mem_filterMap]
  constructor
  · rintro ⟨ev, h1, h2⟩
    cases ev with
    | polling => cases h2
    | close i => rw [(item_close_eq.mp h2).1] at h1; exact h1
    | fb i m => cases (item_fb_eq.mp h2).2
  · exact fun h => ⟨_, h, if_pos rfl⟩

theorem mem_qItems_none {j : Nat} {q : List QEl} : none ∈ qItems j q ↔ ∃ el ∈ q, el.sid = j ∧ el.isClose = true := by
  rw [qItems, mem_kItems_none, mem_map]
  constructor
  · rintro ⟨el, h1, h2⟩
    cases hc : el.isClose <;> simp [QEl.ev, hc] at h2
    exact ⟨el, h1, h2, hc⟩
  · rintro ⟨el, h1, h2, h3⟩
    exact ⟨el, h1, by simp [QEl.ev, h2, h3]⟩

theorem kItems_beforePoll_snoc (j : Nat) (k : List Ev) (ev : Ev) :
    kItems j (beforePoll (k ++ [ev])) = kItems j (beforePoll k) ++ if Ev.polling ∈ k then [] else (ev.item j).toList := by
  induction k with
  | nil =>
    rw [nil_append, beforePoll_cons]
    split
    · next h => rw [h]; rfl
    · rw [if_neg not_mem_nil]; exact kItems_single j ev
  | cons e k ih =>
    rw [cons_append, beforePoll_cons, beforePoll_cons]
    split
    · next h => rw [if_pos (h ▸ mem_cons_self)]; rfl
    · next h => simp only [mem_cons, Ne.symm h, false_or, kItems_cons, ih, append_assoc]

theorem kItems_beforePoll_nil {j : Nat} {k : List Ev} (h : kItems j k = []) : kItems j (beforePoll k) = [] := by
  simp only [kItems, filterMap_eq_nil_iff] at h ⊢
  exact fun ev hev => h ev (beforePoll_subset k ev hev)

theorem wake_q (c : Chan) : c.wake.q = c.q := by unfold Chan.wake; split <;> rfl
theorem wake_flag (c : Chan) : c.wake.flag = true := by unfold Chan.wake; split <;> simp_all
theorem wake_polling (c : Chan) (h : c.flag = true → Ev.polling ∈ c.k) : Ev.polling ∈ c.wake.k := by
  unfold Chan.wake
  split
  · rename_i hf; exact h hf
  · simp
theorem mem_wake_k (c : Chan) (ev : Ev) (h : ev ∈ c.wake.k) : ev ∈ c.k ∨ ev = .polling := by
  unfold Chan.wake at h
  split at h
  · exact Or.inl h
  · simpa using h
/-- `wake` writes at most a polling event: no projection of the connection that skips polling events sees it -/
theorem filterMap_wake {β : Type} (f : Ev → Option β) (h : f .polling = none) (c : Chan) :
    c.wake.k.filterMap f = c.k.filterMap f := by
  unfold Chan.wake; split
  · rfl
  · rw [filterMap_append, filterMap_cons_none h]; exact append_nil _
theorem wake_kdata (j : Nat) (c : Chan) : kdata j c.wake.k = kdata j c.k := filterMap_wake _ rfl c
theorem kItems_wake (j : Nat) (c : Chan) : kItems j c.wake.k = kItems j c.k := filterMap_wake _ rfl c
theorem wake_of_flag {c : Chan} (h : c.flag = true) : c.wake = c := by simp [Chan.wake, h]

/-- the wake-up discipline: a set flag has its polling event on the connection, a non-empty queue has the flag set -/
structure ChanOK (c : Chan) : Prop where
  poll : c.flag = true → Ev.polling ∈ c.k
  flag : c.q ≠ [] → c.flag = true

theorem ChanOK.wake {c : Chan} (h : c.flag = true → Ev.polling ∈ c.k) : ChanOK c.wake :=
  ⟨fun _ => wake_polling c h, fun _ => wake_flag c⟩

theorem ChanOK.emit {c : Chan} (h : ChanOK c) (ev : Ev) : ChanOK { c with k := c.k ++ [ev] } :=
  ⟨fun hf => mem_append_left _ (h.poll hf), h.flag⟩

theorem ChanOK.pop {c : Chan} (h : ChanOK c) {ev : Ev} {rest : List Ev} (hk : c.k = ev :: rest) (hev : ev ≠ .polling) :
    ChanOK { c with k := rest } :=
  ⟨fun hf => (mem_cons.mp (hk ▸ h.poll hf)).resolve_left (Ne.symm hev), h.flag⟩

theorem find_upd (e : MEnd) (id j : Nat) (f : MStream → MStream) (hf : ∀ y, (f y).id = y.id) :
    (e.upd id f).find j = if j = id then (e.find j).map f else e.find j := by
  unfold MEnd.find MEnd.upd
  simp only
  rw [find?_map]
  have hcomp : ((fun x : MStream => decide (x.id = j)) ∘ fun x => if x.id = id then f x else x) = fun x => decide (x.id = j) := by
    funext x
    simp only [Function.comp]
    split
    · rw [hf]
    · rfl
  rw [hcomp]
  cases hfind : find? (fun x : MStream => decide (x.id = j)) e.streams with
  | none => simp
  | some st =>
    have hid : st.id = j := by simpa using find?_some hfind
    by_cases hj : j = id
    · simp [hj, hid ▸ hj]
    · have : ¬ st.id = id := fun h => hj (hid ▸ h)
      simp [hj, this]

theorem find_upd_isSome (e : MEnd) (id j : Nat) (f : MStream → MStream) (hf : ∀ y, (f y).id = y.id) :
    ((e.upd id f).find j).isSome = (e.find j).isSome := by
  rw [find_upd e id j f hf]; split <;> simp

theorem find_upd_same {e : MEnd} {i : Nat} {st : MStream} (f : MStream → MStream) (hf : ∀ y, (f y).id = y.id)
    (h : e.find i = some st) : (e.upd i f).find i = some (f st) := by rw [find_upd e i i f hf, if_pos rfl, h]; rfl

/-- the stream object of an end may change like this without the invariant of its outgoing direction noticing:
    it stays, fall-back stays fall-back, not-open stays not-open -/
def Keeps (o o' : Option MStream) : Prop :=
  ∀ st, o = some st → ∃ st', o' = some st' ∧ (st.inFb = true → st'.inFb = true) ∧ (st.state ≠ .opened → st'.state ≠ .opened)

theorem Keeps.refl (o : Option MStream) : Keeps o o := fun st h => ⟨st, h, id, id⟩
theorem Keeps.trans {a b c : Option MStream} (h1 : Keeps a b) (h2 : Keeps b c) : Keeps a c := by
  intro st h
  obtain ⟨st1, e1, a1, b1⟩ := h1 st h
  obtain ⟨st2, e2, a2, b2⟩ := h2 st1 e1
  exact ⟨st2, e2, a2 ∘ a1, b2 ∘ b1⟩

theorem keeps_upd (e : MEnd) (i j : Nat) (f : MStream → MStream) (hf : ∀ y, (f y).id = y.id)
    (h1 : ∀ y, y.inFb = true → (f y).inFb = true) (h2 : ∀ y, y.state ≠ .opened → (f y).state ≠ .opened) :
    Keeps (e.find j) ((e.upd i f).find j) := by
  intro st hst
  rw [find_upd e i j f hf, hst]
  split
  · exact ⟨f st, rfl, h1 st, h2 st⟩
  · exact ⟨st, rfl, id, id⟩

theorem find_append_new (e : MEnd) (id j : Nat) :
    MEnd.find { e with streams := e.streams ++ [{ id }] } j = (e.find j).or (if id = j then some { id } else none) := by
  simp only [MEnd.find, find?_append, find?_cons, find?_nil]
  congr 1
  by_cases h : id = j <;> simp [h]

/-- the server's end after `getStream` made a stream object for id `i`, in place of an older object with that id if any -/
def createdEnd (e : MEnd) (i : Nat) : MEnd :=
  { e with streams := (e.streams.filter (·.id ≠ i)) ++ [{ id := i }], table := e.table ++ [i] }

/-- getStream finds the id in the table; or, on the server and for data of an open stream, makes a stream object for it;
    or reports that there is none -/
theorem getStream_cases (e : MEnd) (i : Nat) (o : Bool) {P : MEnd × Bool → Prop} (known : e.registered i = true → P (e, true))
    (create : e.registered i = false → e.isClient = false → P (createdEnd e i, true))
    (unknown : e.registered i = false → P (e, false)) : P (getStream e i o) := by
  unfold getStream
  by_cases hreg : e.registered i = true
  · rw [if_pos hreg]; exact known hreg
  rw [if_neg hreg]
  have hreg : e.registered i = false := by simpa using hreg
  split
  · next h => exact create hreg (by simpa using h.1)
  · exact unknown hreg

theorem find_createdEnd_other {e : MEnd} {i j : Nat} (hj : j ≠ i) : (createdEnd e i).find j = e.find j := by
  have hn : ¬ i = j := fun h => hj h.symm
  simp only [createdEnd, MEnd.find, find?_append, find?_filter, find?_cons, find?_nil, hn, decide_false, Option.or_none]
  congr 1; funext a
  by_cases h : a.id = j <;> simp [h, hj]

theorem registered_createdEnd (e : MEnd) (i j : Nat) : (createdEnd e i).registered j = (e.registered j || decide (j = i)) := by
  simp [createdEnd, MEnd.registered]

theorem getStream_find_other (e : MEnd) (id j : Nat) (o : Bool) (hj : j ≠ id) :
    ((getStream e id o).1).find j = e.find j :=
  getStream_cases e id o (P := fun r => r.1.find j = e.find j) (fun _ => rfl) (fun _ _ => find_createdEnd_other hj) (fun _ => rfl)

theorem getStream_find_isSome (e : MEnd) (id j : Nat) (o : Bool) (h : (e.find j).isSome) :
    (((getStream e id o).1).find j).isSome := by
  by_cases hj : j = id
  · subst hj
    exact getStream_cases e j o (P := fun r => (r.1.find j).isSome) (fun _ => h) (fun _ _ => by simp [createdEnd, MEnd.find])
      (fun _ => h)
  · rw [getStream_find_other e id j o hj]; exact h

theorem getStream_keeps_or (e : MEnd) (id j : Nat) (o : Bool) :
    Keeps (e.find j) ((getStream e id o).1.find j) ∨ (j = id ∧ recreates e id = true) := by
  by_cases hj : j = id
  · subst hj
    refine getStream_cases e j o (P := fun r => Keeps (e.find j) (r.1.find j) ∨ (j = j ∧ recreates e j = true))
      (fun _ => Or.inl (Keeps.refl _)) (fun hreg hsrv => ?_) (fun _ => Or.inl (Keeps.refl _))
    cases hf : e.find j with
    | none => exact Or.inl fun _ h => nomatch h
    | some st => exact Or.inr ⟨rfl, by simp [recreates, hf, hreg, hsrv]⟩
  · rw [getStream_find_other e id j o hj]; exact Or.inl (Keeps.refl _)

theorem getStream_table_mono (e : MEnd) (id : Nat) (o : Bool) (i : Nat) (h : e.registered i = true) :
    ((getStream e id o).1).registered i = true :=
  getStream_cases e id o (P := fun r => r.1.registered i = true) (fun _ => h)
    (fun _ _ => by rw [registered_createdEnd, h]; rfl) (fun _ => h)

/-- the end after OpenStream took the next id and registered a stream object for it -/
def openedEnd (e : MEnd) : MEnd :=
  { e with nextId := e.nextId + 1, streams := e.streams ++ [{ id := e.nextId + 1 }], table := e.table ++ [e.nextId + 1] }

/-- the end after a local Close of stream `i` -/
def closedEnd (e : MEnd) (i : Nat) : MEnd :=
  { e.upd i (fun y => { y with state := .closed, buffered := [], fbPending := false }) with table := e.table.filter (· ≠ i) }

theorem keeps_closedEnd (e : MEnd) (i j : Nat) : Keeps (e.find j) ((closedEnd e i).find j) :=
  keeps_upd e i j _ (fun _ => rfl) (fun _ h => h) (fun _ _ => by simp)

theorem find_closedEnd {e : MEnd} {i : Nat} {st : MStream} (h : e.find i = some st) :
    (closedEnd e i).find i = some { st with state := .closed, buffered := [], fbPending := false } :=
  find_upd_same _ (fun _ => rfl) h

theorem registered_closedEnd (e : MEnd) (i j : Nat) : (closedEnd e i).registered j = (e.registered j && decide (j ≠ i)) := by
  simp [closedEnd, MEnd.registered, MEnd.upd]

theorem openStream_eq (s : Sys) (z : Side) :
    (openStream s z).1 = if ((s.me z).find ((s.me z).nextId + 1)).isSome = true
      then s.setMe z { (s.me z) with nextId := (s.me z).nextId + 1 }
      else s.setMe z (openedEnd (s.me z)) := by
  unfold openStream openedEnd
  simp only
  split <;> rfl

/-- Flush finds no such stream; or drops the message (stream not open: `closed`; queue full: `timeout`); or sends it on the
    connection (fall-back state or a heap slice), which makes the stream fall-back; or through the queue. -/
theorem flush_cases (s : Sys) (z : Side) (i : Nat) (heap : Bool) {P : Sys × Res → Prop}
    (missing : (s.me z).find i = none → P (s, .missing))
    (drop : ∀ st r, (s.me z).find i = some st → (st.state ≠ .opened ∧ r = .closed ∨ st.state = .opened ∧ r = .timeout) →
      P ({ s with fresh := s.fresh + 1, retired := s.retired ++ [s.fresh] }, r))
    (viaConn : ∀ st, (s.me z).find i = some st → st.state = .opened →
      P ((({ s with fresh := s.fresh + 1, sent := s.sent ++ [(z, i, s.fresh)] } : Sys).setMe z
            ((s.me z).upd i fun y => { y with inFb := true })).setCh z { s.ch z with k := (s.ch z).k ++ [.fb i s.fresh] },
         .fallback))
    (viaQueue : ∀ st, (s.me z).find i = some st → st.state = .opened → st.inFb = false →
      P (({ s with fresh := s.fresh + 1, sent := s.sent ++ [(z, i, s.fresh)] } : Sys).setCh z
            ({ s.ch z with q := (s.ch z).q ++ [⟨i, s.fresh, false⟩] } : Chan).wake, .shm)) :
    P (flush s z i heap) := by
  unfold flush
  cases hfind : (s.me z).find i with
  | none => exact missing hfind
  | some st =>
    dsimp only
    by_cases hop : st.state ≠ .opened
    · rw [if_pos hop]; exact drop st _ hfind (Or.inl ⟨hop, rfl⟩)
    rw [if_neg hop]
    have hop : st.state = .opened := by simpa using hop
    by_cases hfb : st.inFb = true ∨ heap = true
    · rw [if_pos hfb]; exact viaConn st hfind hop
    rw [if_neg hfb]
    by_cases hfull : (s.ch z).q.length ≥ s.qcap
    · rw [if_pos hfull]; exact drop st _ hfind (Or.inr ⟨hop, rfl⟩)
    · rw [if_neg hfull]; exact viaQueue st hfind hop (by simpa using fun h => hfb (Or.inl h))

theorem flush_not_open {s : Sys} {x : Side} {i : Nat} {st : MStream} (heap : Bool) (h : (s.me x).find i = some st)
    (hst : st.state ≠ .opened) :
    flush s x i heap = ({ s with fresh := s.fresh + 1, retired := s.retired ++ [s.fresh] }, .closed) := by
  unfold flush; rw [h]; dsimp only; rw [if_pos hst]

/-- Close does nothing (no such stream, or closed already); or closes locally and - if the stream was still open - announces
    it: on the connection (fall-back state, or the queue is full) or through the queue. -/
theorem closeStream_cases (s : Sys) (z : Side) (i : Nat) {P : Sys × Res → Prop}
    (missing : (s.me z).find i = none → P (s, .missing))
    (closed : ∀ st, (s.me z).find i = some st → st.state = .closed → P (s, .ok))
    (quiet : ∀ st, (s.me z).find i = some st → st.state ≠ .closed → st.state ≠ .opened →
      P (({ s with retired := s.retired ++ st.buffered } : Sys).setMe z (closedEnd (s.me z) i), .ok))
    (viaConn : ∀ st, (s.me z).find i = some st → st.state = .opened →
      P ((({ s with retired := s.retired ++ st.buffered, closeSent := s.closeSent ++ [(z, i)] } : Sys).setMe z
            (closedEnd (s.me z) i)).setCh z { s.ch z with k := (s.ch z).k ++ [.close i] }, .ok))
    (viaQueue : ∀ st, (s.me z).find i = some st → st.state = .opened → st.inFb = false →
      P ((({ s with retired := s.retired ++ st.buffered, closeSent := s.closeSent ++ [(z, i)] } : Sys).setMe z
            (closedEnd (s.me z) i)).setCh z ({ s.ch z with q := (s.ch z).q ++ [⟨i, 0, true⟩] } : Chan).wake, .ok)) :
    P (closeStream s z i) := by
  unfold closeStream
  cases hfind : (s.me z).find i with
  | none => exact missing hfind
  | some st =>
    dsimp only
    by_cases hcl : st.state = .closed
    · rw [if_pos hcl]; exact closed st hfind hcl
    rw [if_neg hcl]
    by_cases hop : st.state = .opened
    · rw [if_pos hop]
      split
      · exact viaConn st hfind hop
      · rename_i hvia
        exact viaQueue st hfind hop (by simpa using fun h => hvia (Or.inl h))
    · rw [if_neg hop]; exact quiet st hfind hcl hop

theorem closeStream_closed {s : Sys} {x : Side} {i : Nat} {st : MStream} (h : (s.me x).find i = some st)
    (hc : st.state = .closed) : closeStream s x i = (s, .ok) := by
  unfold closeStream; rw [h]; dsimp only; rw [if_pos hc]

theorem closeStream_local {s : Sys} {x : Side} {i : Nat} {st : MStream} (h : (s.me x).find i = some st) (hne : st.state ≠ .closed) :
    (closeStream s x i).1.me x = closedEnd (s.me x) i ∧ (closeStream s x i).1.retired = s.retired ++ st.buffered ∧
    (closeStream s x i).1.closeSent = if st.state = .opened then s.closeSent ++ [(x, i)] else s.closeSent := by
  unfold closeStream; rw [h]; dsimp only; rw [if_neg hne]
  by_cases hop : st.state = .opened
  · rw [if_pos hop, if_pos hop]; split <;> exact ⟨by simp only [Sys.me, Sys.setCh, Sys.setMe, upd_same]; rfl, rfl, rfl⟩
  · rw [if_neg hop, if_neg hop]; exact ⟨setMe_me_same .., rfl, rfl⟩

/-- an arriving message is recorded, `getStream` looks the stream up (the server may create it), and then the message is
    either released at once or appended to the stream's buffer -/
theorem offer_cases (s : Sys) (x : Side) (i m : Nat) (v : Bool) {P : Sys → Prop}
    (retire : P (({ s with arrived := s.arrived ++ [(x, i, m)],
                           recreated := (if recreates (s.me x) i then s.recreated ++ [(x, i)] else s.recreated),
                           retired := s.retired ++ [m] } : Sys).setMe x (getStream (s.me x) i true).1))
    (buffer : ∀ st, (getStream (s.me x) i true).2 = true → (getStream (s.me x) i true).1.find i = some st → st.state ≠ .closed →
      P (({ s with arrived := s.arrived ++ [(x, i, m)],
                   recreated := (if recreates (s.me x) i then s.recreated ++ [(x, i)] else s.recreated),
                   got := s.got ++ [(x, i, m)] } : Sys).setMe x
          ((getStream (s.me x) i true).1.upd i fun y => { y with buffered := y.buffered ++ [m], fbPending := y.fbPending || v }))) :
    P (offer s x i m v) := by
  unfold offer
  rcases hg : getStream (s.me x) i true with ⟨e', found⟩
  rw [hg] at retire buffer
  dsimp only at retire buffer ⊢
  by_cases hfound : found = true
  · rw [if_pos hfound, setMe_me_same]
    cases hfind : e'.find i with
    | none => exact retire
    | some st =>
      dsimp only
      by_cases hcl : st.state = .closed
      · rw [if_pos hcl]; exact retire
      · rw [if_neg hcl]
        have := buffer st hfound hfind hcl
        rw [← setMe_setMe _ x e'] at this
        exact this
  · rw [if_neg hfound]; exact retire

/-- end `y` takes the head event of its peer's connection, if any: with a polling event the whole queue (`drain`), else a
    close notification (`closeNote`) or a fall-back message (`offer`) -/
theorem deliver_cases (s : Sys) (y : Side) {P : Sys → Prop} (idle : P s)
    (poll : ∀ rest, (s.ch y.peer).k = .polling :: rest →
      P (drain (s.ch y.peer).q (s.setCh y.peer { q := [], flag := false, k := rest }) y))
    (close : ∀ i rest, (s.ch y.peer).k = .close i :: rest → P (closeNote (s.setCh y.peer { s.ch y.peer with k := rest }) y i))
    (fb : ∀ i m rest, (s.ch y.peer).k = .fb i m :: rest → P (offer (s.setCh y.peer { s.ch y.peer with k := rest }) y i m true)) :
    P (deliver s y).1 := by
  unfold deliver
  cases hk : (s.ch y.peer).k with
  | nil => simp only [hk]; exact idle
  | cons ev rest =>
    simp only [hk]
    cases ev with
    | polling => exact poll rest hk
    | close i => exact close i rest hk
    | fb i m => exact fb i m rest hk

theorem halfClose_id (y : MStream) : (halfClose y).id = y.id := by unfold halfClose; split <;> rfl
theorem halfClose_inFb (y : MStream) : (halfClose y).inFb = y.inFb := by unfold halfClose; split <;> rfl
theorem halfClose_buffered (y : MStream) : (halfClose y).buffered = y.buffered := by unfold halfClose; split <;> rfl
theorem halfClose_notOpen (y : MStream) : (halfClose y).state ≠ .opened := by
  unfold halfClose; split <;> simp_all

def dataItems (y : Side) (q : List QEl) : List (Side × Nat × Nat) :=
  q.filterMap (fun el => if el.isClose then none else some (y, el.sid, el.msg))

theorem tagOf_dataItems (y : Side) (j : Nat) (q : List QEl) : tagOf y j (dataItems y q) = qdata j q := by
  induction q with
  | nil => rfl
  | cons el r ih =>
    have e : dataItems y (el :: r) = (if el.isClose then [] else [(y, el.sid, el.msg)]) ++ dataItems y r := by
      unfold dataItems; rw [filterMap_cons]; cases el.isClose <;> rfl
    rw [e, tagOf_append, ih]
    cases hc : el.isClose
    · by_cases hs : el.sid = j <;> simp [tagOf_single, hs, qdata, hc]
    · simp [qdata, hc, tagOf]

end Mux

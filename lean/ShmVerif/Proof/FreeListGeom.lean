import ShmVerif.Model.FreeListC
import ShmVerif.Proof.Lists
/-!
  The slot vocabulary of the free-list proofs (`gs`, `Chain`, the walk from `head`, `AtBoundary`, the initial chain), and
  the geometry invariant of the access-granular model: for EVERY interleaving, every index that ever appears (head,
  tail, every `next` field, every thread-local offset, every held / returned slot) is `< n`.
  Hence every buffer handed out by `pop` is one of the `n` slots: it lies inside the class region at a slot boundary.
-/
namespace FreeListC

def gs (sl : List Slot) (i : Nat) : Slot := sl.getD i default

theorem getSlot_eq_gs (s : State) (i : Nat) : getSlot s i = gs s.slots i := rfl

theorem gs_eq_getElem? (sl : List Slot) (i : Nat) : gs sl i = sl[i]?.getD default := List.getD_eq_getElem?_getD ..

theorem gs_modify (sl : List Slot) (i j : Nat) (f : Slot → Slot) :
    gs (sl.modify i f) j = if i = j ∧ j < sl.length then f (gs sl j) else gs sl j :=
  List.getD_modify sl i j f default

theorem gs_modify_ne (sl : List Slot) (x j : Nat) (f : Slot → Slot) (h : j ≠ x) : gs (sl.modify x f) j = gs sl j := by
  rw [gs_modify, if_neg fun e => h e.1.symm]

theorem gs_modify_self (sl : List Slot) (x : Nat) (f : Slot → Slot) (h : x < sl.length) : gs (sl.modify x f) x = f (gs sl x) := by
  rw [gs_modify, if_pos ⟨rfl, h⟩]

def Chain (sl : List Slot) : List Nat → Prop
  | [] => False
  | [a] => (gs sl a).hasNext = false
  | a :: b :: r => (gs sl a).hasNext = true ∧ (gs sl a).next = b ∧ Chain sl (b :: r)

theorem chain_tail {sl : List Slot} {a b : Nat} {r : List Nat} (h : Chain sl (a :: b :: r)) : Chain sl (b :: r) := h.2.2

theorem walk_chain (s : State) (l : List Nat) (a : Nat) (f : Nat) (hc : Chain s.slots (a :: l)) (hf : l.length < f) :
    walk f s a = a :: l := by
  induction l generalizing a f with
  | nil =>
    cases f with
    | zero => simp at hf
    | succ f => simp [walk, getSlot_eq_gs, show (gs s.slots a).hasNext = false from hc]
  | cons b r ih =>
    cases f with
    | zero => simp at hf
    | succ f =>
      simp only [walk, getSlot_eq_gs, hc.1, if_true, hc.2.1]
      rw [ih b f hc.2.2 (by simp at hf; omega)]

theorem walk_of_chain {s : State} {free : List Nat} {f : Nat} (hc : Chain s.slots free) (hh : free.head? = some s.head)
    (hf : free.length ≤ f) : walk f s s.head = free := by
  cases free with
  | nil => exact hc.elim
  | cons a rest =>
    rw [← Option.some.inj hh]
    exact walk_chain s rest a f hc hf

def AtBoundary (th : Th) : Prop := th.pc = .idle ∨ th.pc = .pLdHead ∨ th.pc = .uReset

def ResOk (n : Nat) : Res → Prop
  | .got i => i < n
  | .pushed i => i < n
  | _ => True

structure ThOk (n : Nat) (th : Th) : Prop where
  oldHead : th.oldHead < n
  nxt : th.nxt < n
  ot : th.ot < n
  o : th.o < n
  held : ∀ h ∈ th.held, h < n
  res : ∀ r ∈ th.res, ResOk n r

structure Geom (n : Nat) (s : State) : Prop where
  len : s.slots.length = n
  npos : 0 < n
  head : s.head < n
  tail : s.tail < n
  next : ∀ x ∈ s.slots, x.next < n
  ths : ∀ th ∈ s.ths, ThOk n th

theorem initSlots_length (n : Nat) : (initSlots n).length = n := by simp [initSlots]

theorem geom_init (n : Nat) (hn : 0 < n) (progs : List (List Op)) : Geom n (init n progs) := by
  refine ⟨initSlots_length n, hn, hn, Nat.sub_lt hn Nat.one_pos, ?_, ?_⟩
  · intro x hx
    simp only [init, initSlots, List.mem_map, List.mem_range] at hx
    obtain ⟨i, hi, rfl⟩ := hx
    split <;> (simp only []; omega)
  · intro th hth
    simp only [init, List.mem_map] at hth
    obtain ⟨p, _, rfl⟩ := hth
    exact ⟨hn, hn, hn, hn, by simp, by simp⟩

theorem gs_initSlots (n i : Nat) (hi : i < n) :
    gs (initSlots n) i = if i + 1 < n then { next := i + 1, hasNext := true, inUsed := false }
                         else { next := 0, hasNext := false, inUsed := false } := by
  simp [gs_eq_getElem?, initSlots, hi]

theorem chain_initSlots (n : Nat) : ∀ (m k : Nat), k + m + 1 = n → Chain (initSlots n) (List.range' k (m + 1)) := by
  intro m
  induction m with
  | zero =>
    intro k hk
    simp only [List.range', Chain]
    rw [gs_initSlots n k (by omega), if_neg (by omega)]
  | succ m ih =>
    intro k hk
    simp only [List.range', Chain]
    rw [gs_initSlots n k (by omega), if_pos (by omega)]
    exact ⟨rfl, rfl, ih (k + 1) (by omega)⟩

theorem ThOk.res_snoc {n : Nat} {t : Th} (h : ThOk n t) {r : Res} (hr : ResOk n r) :
    ThOk n { t with res := t.res ++ [r] } :=
  { h with res := fun x hx => (List.mem_append.mp hx).elim (h.res x) fun hx => List.mem_singleton.mp hx ▸ hr }

theorem startNextAux_ok (n : Nat) (ops : List Op) (t : Th) (h : ThOk n t) : ThOk n (startNextAux t ops) := by
  induction ops generalizing t with
  | nil => exact { h with }
  | cons op r ih =>
    cases op with
    | pop => exact { h with }
    | push k =>
      simp only [startNextAux]
      split
      · exact ih _ (h.res_snoc trivial)
      · rename_i o ho
        exact { h with o := h.held o (List.mem_of_getElem? ho)
                       held := fun x hx => h.held x (List.mem_of_mem_eraseIdx hx) }

theorem startNext_ok (n : Nat) (t : Th) (h : ThOk n t) : ThOk n (startNext t) :=
  startNextAux_ok n _ t h

theorem finishOp_ok (n : Nat) (t : Th) (r : Res) (h : ThOk n t) (hr : ResOk n r) : ThOk n (finishOp t r) :=
  startNext_ok _ _ (h.res_snoc hr)

theorem modify_length (l : List Slot) (i : Nat) (f : Slot → Slot) : (l.modify i f).length = l.length := by simp

/-- thread `t` moves on; of the shared words only head and tail (to slot indices) and the counters change -/
theorem Geom.local {n : Nat} {s : State} (g : Geom n s) (t : Nat) {hd tl : Nat} (hhd : hd < n) (htl : tl < n)
    (z c : Int) (v : Nat) (a : Bool) {th' : Th} (h : ThOk n th') :
    Geom n { s with head := hd, tail := tl, size := z, counter := c, hver := v, aba := a, ths := s.ths.set t th' } :=
  ⟨g.len, g.npos, hhd, htl, g.next, fun _ hx => (List.mem_or_eq_of_mem_set hx).elim (g.ths _) (· ▸ h)⟩

/-- thread `t` rewrites one slot, keeping its `next` field or setting it to a slot index -/
theorem Geom.modify {n : Nat} {s : State} (g : Geom n s) (t i : Nat) (f : Slot → Slot)
    (hf : ∀ x, x.next < n → (f x).next < n) {th' : Th} (h : ThOk n th') :
    Geom n { s with slots := s.slots.modify i f, ths := s.ths.set t th' } := by
  refine ⟨by simp [g.len], g.npos, g.head, g.tail, ?_, fun _ hx => (List.mem_or_eq_of_mem_set hx).elim (g.ths _) (· ▸ h)⟩
  intro x hx
  obtain ⟨j, hj, rfl⟩ := List.mem_iff_getElem.mp hx
  rw [List.getElem_modify]
  simp only [List.length_modify] at hj
  split
  · exact hf _ (g.next _ (List.getElem_mem hj))
  · exact g.next _ (List.getElem_mem hj)

theorem Geom.getSlot_next {n : Nat} {s : State} (g : Geom n s) (i : Nat) : (getSlot s i).next < n := by
  rw [getSlot_eq_gs, gs_eq_getElem?]
  cases h : s.slots[i]? with
  | none => exact g.npos
  | some x => exact g.next x (List.mem_of_getElem? h)

theorem step_geom {n : Nat} (s : State) (t : Nat) (g : Geom n s) : Geom n (step s t).1 := by
  unfold step
  cases ht : s.ths[t]? with
  | none => exact g
  | some th =>
    have h := g.ths th (List.mem_of_getElem? ht)
    cases hpc : th.pc <;> simp only [stepTh, hpc]
    case idle | uIncSize => exact g.local t g.head g.tail _ _ _ _ { h with }
    case pLdHead => exact g.local t g.head g.tail _ _ _ _ { h with oldHead := g.head }
    case pDec | pHasNext | pPlainSize => split <;> exact g.local t g.head g.tail _ _ _ _ { h with }
    case pIncFail => exact g.local t g.head g.tail _ _ _ _ (finishOp_ok _ _ _ h trivial)
    case pNext => exact g.local t g.head g.tail _ _ _ _ { h with nxt := g.getSlot_next _ }
    case pCas =>
      split
      · exact g.local t h.nxt g.tail _ _ _ _ { h with }
      · exact g.local t g.head g.tail _ _ _ _ { h with }
    -- `by exact`: elaborated after `f` has been read off the goal (as a plain term it would be unified first, fixing `f := id`)
    case pClear | pSetUsed | uReset | uLink1 => exact g.modify t _ _ (by exact fun _ hx => hx) { h with }
    case pCnt =>
      refine g.local t g.head g.tail _ _ _ _ (finishOp_ok _ _ _ { h with held := ?_ } h.oldHead)
      intro x hx
      rcases List.mem_append.mp hx with hx | hx
      · exact h.held x hx
      · exact List.mem_singleton.mp hx ▸ h.oldHead
    case pReload => split <;> exact g.local t g.head g.tail _ _ _ _ { h with oldHead := g.head }
    case uLdTail => exact g.local t g.head g.tail _ _ _ _ { h with ot := g.tail }
    case uCas =>
      split
      · exact g.local t g.head h.o _ _ _ _ { h with }
      · exact g.local t g.head g.tail _ _ _ _ { h with }
    case uLink0 => exact g.modify t _ _ (by exact fun _ _ => h.o) { h with }
    case uDecCnt => exact g.local t g.head g.tail _ _ _ _ (finishOp_ok _ _ _ h h.o)

theorem prime_geom {n : Nat} (s : State) (g : Geom n s) : Geom n (prime s) := by
  refine ⟨g.len, g.npos, g.head, g.tail, g.next, ?_⟩
  intro th hth
  simp only [prime, List.mem_map] at hth
  obtain ⟨t, ht, rfl⟩ := hth
  exact startNext_ok _ _ (g.ths t ht)

theorem run_geom {n : Nat} (s : State) (sched : List Nat) (g : Geom n s) : Geom n (run s sched) :=
  List.foldlRecOn sched _ g fun s hb t _ => step_geom s t hb

end FreeListC

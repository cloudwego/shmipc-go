import ShmVerif.Model.Pool
/-!
  What `Proto.poolPut` (Stream.reset + streamPool.putOrCloseStream) does, said once; `Props/C15` reads its theorems about
  PutBack off it.
-/
namespace Proto
open List

theorem poolPut_none {s : Proto.Sys} {p : PoolSt} {id : Nat} (h : s.a.find id = none) : poolPut s p id = (s, p, "missing") := by
  unfold poolPut; rw [h]

/-- PutBack either keeps the stream - then it was open, not in fall-back state, read to the end, with nothing pending, and
    the ring had room - or leaves the pool as it was and closes the stream. -/
theorem poolPut_spec (s : Proto.Sys) (p : PoolSt) (id : Nat) (st : PStream) (hst : s.a.find id = some st) :
    (st.state = .opened ∧ st.inFallback = false ∧ st.recv.len = 0 ∧ st.pending = [] ∧ p.ring.length < p.cap ∧
      (poolPut s p id).2 = ({ p with ring := p.ring ++ [id] }, "pooled")) ∨
    ∃ s0 tag, tag ≠ "pooled" ∧ poolPut s p id = ((closeStream s0 .a id).1, p, tag) := by
  unfold poolPut
  rw [hst]
  dsimp only
  -- `rw [if_pos/if_neg]` and not `split`: the untaken branches hold the whole `reuse` term
  by_cases h1 : st.inFallback = true
  · rw [if_pos h1]; exact Or.inr ⟨s, _, by decide, rfl⟩
  rw [if_neg h1]
  by_cases h2 : st.state ≠ .opened
  · rw [if_pos h2]; exact Or.inr ⟨s, _, by decide, rfl⟩
  rw [if_neg h2]
  by_cases h3 : st.recv.len > 0
  · rw [if_pos h3]; exact Or.inr ⟨s, _, by decide, rfl⟩
  rw [if_neg h3]
  by_cases h4 : (!st.pending.isEmpty) = true
  · rw [if_pos h4]; exact Or.inr ⟨s, _, by decide, rfl⟩
  rw [if_neg h4]
  by_cases h5 : p.ring.length < p.cap
  · rw [if_pos h5]
    refine Or.inl ⟨by simpa using h2, by simpa using h1, by omega, ?_, h5, rfl⟩
    cases hp : st.pending with
    | nil => rfl
    | cons a r => simp [hp] at h4
  · rw [if_neg h5]; exact Or.inr ⟨_, _, by decide, rfl⟩

end Proto

import ShmVerif.Model.ReadWait
/-! Invariant of the blocking-read model (reader thread, event loop, the three close events), for every interleaving. -/
namespace ReadWait

structure Inv (s : State) : Prop where
  /-- a reader on its way into the select, or asleep in it, found too little: it is not holding enough unnoticed -/
  selShort : ∀ m, (s.r = .sel m ∨ s.r = .chkOpen m) → s.recv < m
  /-- no lost wake-up: data added and not yet moved is announced by the token, or the event loop is about to post it -/
  noLost : 0 < s.pending → s.w = .loaded ∨ s.token = true
  /-- every way out of the open state closes the close-notification channel -/
  closedNotified : s.state ≠ .opened → s.closeCh = true

theorem inv_init : Inv {} := by constructor <;> simp

/-- The only reader step that takes the token (`sel` woken by `tok`) also moves `pending` away, so `noLost` is never
    left with data pending and no token; every other reader step either empties `pending` too or touches neither.
    A close that drops the buffered data only lowers `recv`, and a reader step that leaves `recv` short re-arms at the
    same `min`, so `selShort` survives. -/
theorem inv_step {s : State} (h : Inv s) (op : Op) : Inv (step s op) := by
  obtain ⟨h1, h2, h3⟩ := h
  rcases s with ⟨state, pending, recv, token, closeCh, deadline, r, w, arrived⟩
  simp only at h1 h2 h3
  cases op with
  | read m d =>
    simp only [step, startRead]
    cases r <;> simp only [] <;> first | exact ⟨h1, h2, h3⟩ | (refine ⟨?_, h2, h3⟩; intro m' hm; simp at hm)
  | r p =>
    simp only [step, stepR]
    cases r with
    | idle | done _ => exact ⟨h1, h2, h3⟩
    | start m =>
      simp only []
      by_cases c1 : m ≤ recv + pending
      · simp only [c1, if_true]; refine ⟨?_, ?_, h3⟩ <;> simp
      · simp only [c1, if_false]
        -- whether anything is buffered decides between `chkOpen` and `sel`, not the invariant
        split
        all_goals
          refine ⟨?_, by simp, h3⟩
          intro m' hm; simp at hm; subst hm; simp; omega
    | chkOpen m =>
      simp only []
      split
      · refine ⟨?_, h2, h3⟩; intro m' hm; simp at hm
      · refine ⟨?_, h2, h3⟩
        intro m' hm; simp at hm; subst hm
        exact h1 m (Or.inr rfl)
    | sel m =>
      have hlt := h1 m (Or.inl rfl)
      cases p with
      | tok =>
        simp only []
        split
        · by_cases c2 : m ≤ recv + pending
          · simp only [c2, if_true]; refine ⟨?_, ?_, h3⟩ <;> simp
          · simp only [c2, if_false]; refine ⟨?_, ?_, h3⟩
            · intro m' hm; simp at hm; subst hm; simp; omega
            · simp
        · exact ⟨h1, h2, h3⟩
      | close =>
        simp only []
        split
        · split
          all_goals refine ⟨?_, ?_, h3⟩ <;> simp
        · exact ⟨h1, h2, h3⟩
      | timer =>
        simp only []
        split
        · refine ⟨?_, h2, h3⟩; intro m' hm; simp at hm
        · exact ⟨h1, h2, h3⟩
    | closeChk m =>
      simp only []
      split <;> (refine ⟨?_, h2, h3⟩; intro m' hm; simp at hm)
  | w n =>
    simp only [step, stepW]
    cases w with
    | idle => exact ⟨h1, fun _ => Or.inl rfl, h3⟩
    | loaded =>
      simp only []
      split
      · refine ⟨?_, by simp, h3⟩
        intro m hm; have := h1 m hm; simp; omega
      · exact ⟨h1, fun _ => Or.inr rfl, h3⟩
  | peerClose =>
    simp only [step, peerClose]
    split
    · exact ⟨h1, h2, fun _ => rfl⟩
    · exact ⟨h1, h2, h3⟩
  | localClose =>
    simp only [step, localClose]
    split
    · exact ⟨h1, h2, h3⟩
    · refine ⟨?_, by simp, fun _ => rfl⟩
      intro m hm; have := h1 m hm; simp; omega
  | sessionClose => exact ⟨h1, h2, fun _ => rfl⟩

theorem inv_run {s : State} (h : Inv s) (ops : List Op) : Inv (run s ops) :=
  List.foldlRecOn ops step h fun _ hb op _ => inv_step hb op

end ReadWait

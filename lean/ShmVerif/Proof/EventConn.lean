import ShmVerif.Model.EventConn
import ShmVerif.Proof.Lists
/-!
  (a) the read window refines a byte queue; (b) write / writev hand the kernel exactly the data, once, in order;
  (c) the `writing` flag is a mutex with no lost wake-up for the send loop.
-/
namespace EventConn
open List

structure RInv (s : RState) : Prop where
  le1 : s.start ≤ s.end_
  le2 : s.end_ ≤ s.buf.length
  pos : 0 < s.buf.length

/-- abstract view: the queue of unconsumed bytes plus the geometry that decides how much the next read may deliver -/
structure QState where
  q : List Nat
  cap : Nat
  start : Nat
  deriving DecidableEq, Repr

def abs (s : RState) : QState := { q := window s, cap := s.buf.length, start := s.start }

def qExpand (s : QState) : QState :=
  if s.cap - (s.start + s.q.length) = 0 then { s with cap := 2 * s.cap, start := 0 } else s

def qCommit (cfg : RCfg) (s : QState) (k : Nat) : QState :=
  if k = s.q.length then { q := [], cap := if s.cap > cfg.shrinkThreshold then s.cap / 2 else s.cap, start := 0 }
  else { s with q := s.q.drop k, start := s.start + k }

theorem window_length (s : RState) (h : RInv s) : (window s).length = s.end_ - s.start := by
  rw [window, length_take, length_drop]
  exact Nat.min_eq_left (Nat.sub_le_sub_right h.le2 _)

theorem room_abs (s : RState) (h : RInv s) :
    (abs s).cap - ((abs s).start + (abs s).q.length) = s.buf.length - s.end_ := by
  show s.buf.length - (s.start + (window s).length) = _
  rw [window_length s h, Nat.add_sub_cancel' h.le1]

theorem maybeExpand_spec (s : RState) (h : RInv s) :
    RInv (maybeExpand s) ∧ abs (maybeExpand s) = qExpand (abs s) := by
  have hl := window_length s h
  have hroom := room_abs s h
  obtain ⟨h1, h2, h3⟩ := h
  unfold qExpand
  rw [hroom]
  by_cases hfull : s.buf.length - s.end_ = 0
  · -- compaction: the unread bytes move to the front of a buffer twice as long
    have e : maybeExpand s = { buf := window s ++ replicate (2 * s.buf.length - (window s).length) 0, start := 0,
                               end_ := (window s).length } := if_pos hfull
    have hlt : (window s).length < 2 * s.buf.length := by rw [hl]; omega
    have hlen : (window s ++ replicate (2 * s.buf.length - (window s).length) 0).length = 2 * s.buf.length := by
      rw [length_append, length_replicate, Nat.add_sub_cancel' (Nat.le_of_lt hlt)]
    rw [← hlen] at hlt
    rw [e, if_pos hfull]
    refine ⟨⟨Nat.zero_le _, Nat.le_of_lt hlt, Nat.zero_lt_of_lt hlt⟩, ?_⟩
    show QState.mk (window _) (length _) 0 = QState.mk (window s) (2 * s.buf.length) 0
    rw [hlen, window, drop_zero, Nat.sub_zero, take_left' rfl]
  · have e : maybeExpand s = s := if_neg hfull
    rw [e, if_neg hfull]
    exact ⟨⟨h1, h2, h3⟩, rfl⟩

theorem store_spec (s : RState) (d : List Nat) (h : RInv s) (hroom : s.end_ + d.length ≤ s.buf.length) :
    RInv (store s d) ∧ abs (store s d) = { abs s with q := (abs s).q ++ d } := by
  obtain ⟨h1, h2, h3⟩ := h
  have hlen : (store s d).buf.length = s.buf.length := length_splice s.buf d hroom
  refine ⟨⟨Nat.le_trans h1 (Nat.le_add_right _ _), hlen ▸ hroom, hlen ▸ h3⟩, ?_⟩
  show QState.mk (window (store s d)) (store s d).buf.length s.start = QState.mk (window s ++ d) s.buf.length s.start
  rw [hlen, show window (store s d) = _ from window_splice s.buf d h1 hroom]; rfl

/-- `hthr`: a buffer is halved only above the threshold, and the half must not be empty (`RInv.pos`) -/
theorem commitRead_spec (cfg : RCfg) (hthr : 2 ≤ cfg.shrinkThreshold) (s : RState) (k : Nat) (h : RInv s)
    (hk : k ≤ (window s).length) :
    RInv (commitRead cfg s k) ∧ abs (commitRead cfg s k) = qCommit cfg (abs s) k := by
  have hl := window_length s h
  obtain ⟨h1, h2, h3⟩ := h
  unfold qCommit
  by_cases hall : s.start + k = s.end_
  · -- everything consumed: the cursors rewind, a large buffer is halved
    have e : commitRead cfg s k = { buf := if s.buf.length > cfg.shrinkThreshold then s.buf.take (s.buf.length / 2) else s.buf,
                                    start := 0, end_ := 0 } := if_pos hall
    have hb : (if s.buf.length > cfg.shrinkThreshold then s.buf.take (s.buf.length / 2) else s.buf).length =
        if s.buf.length > cfg.shrinkThreshold then s.buf.length / 2 else s.buf.length := by
      rw [apply_ite length, length_take, Nat.min_eq_left (Nat.div_le_self _ _)]
    rw [e, if_pos (show k = (abs s).q.length by show k = (window s).length; omega)]
    refine ⟨⟨Nat.le_refl _, Nat.zero_le _, ?_⟩, congrArg (QState.mk [] · 0) hb⟩
    rw [hb]; split <;> omega
  · have e : commitRead cfg s k = { s with start := s.start + k } := if_neg hall
    rw [e, if_neg (show ¬ k = (abs s).q.length by show ¬ k = (window s).length; omega)]
    refine ⟨⟨by show s.start + k ≤ s.end_; omega, h2, h3⟩, ?_⟩
    show QState.mk (take (s.end_ - (s.start + k)) (drop (s.start + k) s.buf)) _ _ = QState.mk ((window s).drop k) _ _
    rw [window, drop_take, drop_drop, Nat.sub_add_eq]; rfl

/-- the abstract run: the same control flow on the queue -/
def specReady (cfg : RCfg) : Nat → QState → List KRead → Consumer → List (List Nat) →
    QState × List (List Nat) × List KRead × Consumer × Bool
  | 0, s, reads, cs, shown => (s, shown, reads, cs, false)
  | f + 1, s, reads, cs, shown =>
    let s1 := qExpand s
    let finish (reads : List KRead) (closed : Bool) :=
      let k := min (cs.headD 0) s1.q.length
      (qCommit cfg s1 k, shown ++ [s1.q], reads, cs.tail, closed)
    match reads with
    | [] => finish [] false
    | .eagain :: r => finish r false
    | .eof :: r => finish r true
    | .data d :: r =>
      let d := d.take (s1.cap - (s1.start + s1.q.length))
      let s2 := { s1 with q := s1.q ++ d }
      if s2.q.length ≥ cfg.onDataThreshold then
        let k := min (cs.headD 0) s2.q.length
        specReady cfg f (qCommit cfg s2 k) r cs.tail (shown ++ [s2.q])
      else specReady cfg f s2 r cs shown

/-- Refinement: on every input (kernel results, consumer pacing) the buffer-based implementation shows the callback the
    same windows as the byte queue, keeps `0 ≤ start ≤ end ≤ len(buf)`, and ends in the corresponding state. -/
theorem onReadReady_refines (cfg : RCfg) (hthr : 2 ≤ cfg.shrinkThreshold) : ∀ (fuel : Nat) (s : RState)
    (reads : List KRead) (cs : Consumer) (shown : List (List Nat)), RInv s →
    RInv (onReadReady cfg fuel s reads cs shown).1 ∧
    (onReadReady cfg fuel s reads cs shown).map abs id = specReady cfg fuel (abs s) reads cs shown
  | 0, s, reads, cs, shown, h => ⟨h, rfl⟩
  | f + 1, s, reads, cs, shown, h => by
    obtain ⟨h1, hx⟩ := maybeExpand_spec s h
    -- the callback is shown the queue, and `commitRead` follows `qCommit`
    have hfin := fun s1 h1 => commitRead_spec cfg hthr s1 (min (cs.headD 0) (window s1).length) h1 (Nat.min_le_right _ _)
    unfold onReadReady specReady
    rw [← hx]
    generalize maybeExpand s = s1 at h1 ⊢
    match reads with
    | [] | .eagain :: r | .eof :: r => exact ⟨(hfin s1 h1).1, congrArg (·, _) (hfin s1 h1).2⟩
    | .data d :: r =>
      have hroom : s1.end_ + (d.take (s1.buf.length - s1.end_)).length ≤ s1.buf.length := by
        rw [length_take]; have := h1.le2; omega
      obtain ⟨h2, hs⟩ := store_spec s1 _ h1 hroom
      have hq : (abs s1).q ++ d.take (s1.buf.length - s1.end_) = window (store s1 (d.take (s1.buf.length - s1.end_))) :=
        (congrArg QState.q hs).symm
      simp only [room_abs s1 h1]
      rw [← hs, hq, ← window_length _ h2]
      generalize store s1 (d.take (s1.buf.length - s1.end_)) = s2 at h2 ⊢
      by_cases hthrs : (window s2).length ≥ cfg.onDataThreshold
      · rw [if_pos hthrs, if_pos hthrs, ← (hfin s2 h2).2]
        exact onReadReady_refines cfg hthr f _ r cs.tail _ (hfin s2 h2).1
      · rw [if_neg hthrs, if_neg hthrs]
        exact onReadReady_refines cfg hthr f s2 r cs shown h2

/-- what a write loop may report: it handed the kernel `out`, which is `acc` followed by a prefix of `l`, each byte
    once and in order, and says `ok` only if that prefix is all of `l` -/
def Sent {α} (l acc out : List α) (ok : Bool) : Prop :=
  ∃ k, k ≤ l.length ∧ out = acc ++ l.take k ∧ (ok = true → k = l.length)

theorem Sent.none {α} (l acc : List α) : Sent l acc acc false :=
  ⟨0, Nat.zero_le _, (append_nil _).symm, Bool.noConfusion⟩

theorem Sent.nil {α} (acc : List α) (ok : Bool) : Sent [] acc acc ok :=
  ⟨0, Nat.le_refl _, (append_nil _).symm, fun _ => rfl⟩

theorem Sent.append {α} {l m acc out : List α} {ok : Bool} (h : Sent m (acc ++ l) out ok) : Sent (l ++ m) acc out ok := by
  obtain ⟨k, h1, h2, h3⟩ := h
  refine ⟨l.length + k, ?_, ?_, fun hok => ?_⟩
  · rw [length_append]; exact Nat.add_le_add_left h1 _
  · rw [h2, take_length_add_append, append_assoc]
  · rw [h3 hok, length_append]

theorem Sent.step {α} {l acc out : List α} {ok : Bool} (k : Nat) (h : Sent (l.drop k) (acc ++ l.take k) out ok) :
    Sent l acc out ok := by
  have := Sent.append h; rwa [take_append_drop] at this

theorem Sent.append_right {α} {l acc out : List α} (m : List α) (h : Sent l acc out false) : Sent (l ++ m) acc out false := by
  obtain ⟨k, h1, h2, -⟩ := h
  exact ⟨k, by rw [length_append]; exact Nat.le_trans h1 (Nat.le_add_right _ _), by rw [h2, take_append_of_le_length h1],
    Bool.noConfusion⟩

theorem write_spec : ∀ (fuel : Nat) (data : List Nat) (res : List KWrite) (acc : List Nat) (calls : Nat),
    Sent data acc (write fuel data res acc calls).1 (write fuel data res acc calls).2.2
  | 0, _, _, _, _ => .none _ _
  | _ + 1, [], _, _, _ => .nil _ _
  | _ + 1, _ :: _, [], _, _ => .none _ _
  | f + 1, a :: l, .eagain :: r, acc, calls => write_spec f (a :: l) r acc (calls + 1)
  | f + 1, a :: l, .n k :: r, _, calls => .step (min k (a :: l).length) (write_spec f _ r _ (calls + 1))

/-- every iovec describes a suffix of its slice -/
def IovWF (data : List (List Nat)) (iov : List IoVec) : Prop :=
  ∀ v ∈ iov, v.off + v.len = (data.getD v.idx []).length

theorem iovBytes_cons (data : List (List Nat)) (v : IoVec) (r : List IoVec) :
    iovBytes data (v :: r) = ((data.getD v.idx []).drop v.off).take v.len ++ iovBytes data r := by
  simp [iovBytes]

theorem ackWrite_spec (data : List (List Nat)) : ∀ (fuel : Nat) (iov : List IoVec) (n : Nat),
    IovWF data iov → n ≤ (iovBytes data iov).length → iov.length < fuel →
    iovBytes data (ackWrite fuel data iov n) = (iovBytes data iov).drop n ∧ IovWF data (ackWrite fuel data iov n)
  | _ + 1, [], n, hwf, _, _ => ⟨(drop_nil (i := n)).symm, hwf⟩
  | f + 1, v :: r, n, hwf, hn, hf => by
    have hv := hwf v mem_cons_self
    have hr : IovWF data r := fun x hx => hwf x (mem_cons_of_mem _ hx)
    have hvl : (((data.getD v.idx []).drop v.off).take v.len).length = v.len := by
      rw [length_take, length_drop, Nat.min_eq_left (Nat.le_sub_of_add_le' (Nat.le_of_eq hv))]
    rw [iovBytes_cons] at hn ⊢
    rw [ackWrite]
    by_cases h0 : n = 0
    · rw [if_pos h0, h0, drop_zero, iovBytes_cons]; exact ⟨rfl, hwf⟩
    rw [if_neg h0]
    by_cases hge : n ≥ v.len
    · -- the whole iovec was written: go on with the rest
      rw [if_pos hge, drop_append, drop_eq_nil_of_le (Nat.le_trans (Nat.le_of_eq hvl) hge), nil_append, hvl]
      exact ackWrite_spec data f r (n - v.len) hr (by rw [length_append, hvl] at hn; omega) (Nat.lt_of_succ_lt_succ hf)
    · -- part of it: the iovec is cut at the front, still a suffix of its slice
      rw [if_neg hge, iovBytes_cons, drop_append_of_le_length (Nat.le_trans (Nat.le_of_not_le hge) (Nat.le_of_eq hvl.symm))]
      refine ⟨?_, fun x hx => ?_⟩
      · show take (v.len - n) (drop ((data.getD v.idx []).length - (v.len - n)) _) ++ _ = _
        rw [show (data.getD v.idx []).length - (v.len - n) = v.off + n by omega, drop_take, drop_drop]
      · rcases mem_cons.mp hx with rfl | hx
        · show (data.getD v.idx []).length - (v.len - n) + (v.len - n) = (data.getD v.idx []).length; omega
        · exact hr x hx

theorem doWritev_spec (data : List (List Nat)) : ∀ (fuel : Nat) (iov : List IoVec) (res : List KWrite)
    (acc : List Nat) (calls : Nat), IovWF data iov →
    Sent (iovBytes data iov) acc (doWritev fuel data iov res acc calls).1 (doWritev fuel data iov res acc calls).2.2.2
  | 0, _, _, _, _, _ => .none _ _
  | _ + 1, [], _, _, _, _ => .nil _ _
  | _ + 1, _ :: _, [], _, _, _ => .none _ _
  | f + 1, v :: i, .eagain :: r, acc, calls, hwf => doWritev_spec data f (v :: i) r acc (calls + 1) hwf
  | f + 1, v :: i, .n k :: r, acc, calls, hwf => by
    obtain ⟨a1, a2⟩ := ackWrite_spec data _ (v :: i) (min k (iovBytes data (v :: i)).length) hwf (Nat.min_le_right _ _)
      (Nat.lt_succ_self _)
    exact .step _ (a1 ▸ doWritev_spec data f _ r _ (calls + 1) a2)

theorem iovBytes_batch (batch : List (List Nat)) :
    iovBytes batch ((List.range batch.length).map (fun i => ({ idx := i, off := 0, len := (batch.getD i []).length } : IoVec))) = batch.flatten ∧
    IovWF batch ((List.range batch.length).map (fun i => ({ idx := i, off := 0, len := (batch.getD i []).length } : IoVec))) := by
  constructor
  · unfold iovBytes
    rw [flatMap_def, map_map]
    congr 1
    apply ext_getElem
    · simp
    · intro i h1 h2
      simp only [length_map, length_range] at h1
      simp [getD_eq_getElem?_getD, h1]
  · intro v hv
    simp only [mem_map, mem_range] at hv
    obtain ⟨i, _, rfl⟩ := hv
    simp

theorem writev_spec : ∀ (fuel : Nat) (data : List (List Nat)) (res : List KWrite) (acc : List Nat) (calls : Nat),
    Sent data.flatten acc (writev fuel data res acc calls).1 (writev fuel data res acc calls).2.2
  | 0, _, _, _, _ => .none _ _
  | _ + 1, [], _, _, _ => .nil _ _
  | f + 1, a :: l, res, acc, calls => by
    obtain ⟨b1, b2⟩ := iovBytes_batch ((a :: l).take 256)
    have h := doWritev_spec _ (res.length + 2) _ res acc calls b2
    rw [b1] at h
    rw [writev, ← take_append_drop 256 (a :: l), flatten_append]
    simp only [isEmpty_cons, Bool.false_eq_true, if_false, take_append_drop]
    generalize doWritev _ _ _ _ _ _ = o at h ⊢
    obtain ⟨acc', calls', res', ok⟩ := o
    cases ok with
    | false => exact h.append_right _
    | true =>
      obtain ⟨k, -, h2, h3⟩ := h
      rw [h3 rfl, take_length] at h2
      exact .append (h2 ▸ writev_spec f _ res' acc' calls')

def holders (s : WState) : Nat := s.ws.countP (· == .holding) + (if s.sl = .holding then 1 else 0)

structure WInv (s : WState) : Prop where
  inside : s.inside = holders s
  flag : s.writing = true ↔ s.inside = 1
  le : s.inside ≤ 1
  maxle : s.maxInside ≤ 1
  /-- the send loop is never parked without either a holder that will wake it or a token waiting for it -/
  wake : s.sl = .parked → s.writing = true ∨ s.token = true

theorem WInv.frame {s s' : WState} (h : WInv s) (hh : holders s' = holders s) (hi : s'.inside = s.inside)
    (hw : s'.writing = s.writing) (hm : s'.maxInside = s.maxInside)
    (hk : s'.sl = .parked → s'.writing = true ∨ s'.token = true) : WInv s' :=
  ⟨by rw [hi, hh]; exact h.inside, by rw [hw, hi]; exact h.flag, hi ▸ h.le, hm ▸ h.maxle, hk⟩

theorem WInv.acquire {s s' : WState} (h : WInv s) (hfree : ¬ s.writing = true) (hh : holders s' = holders s + 1)
    (hi : s'.inside = s.inside + 1) (hw : s'.writing = true) (hm : s'.maxInside = max s.maxInside (s.inside + 1)) :
    WInv s' := by
  have h0 : s.inside = 0 := by
    have := h.le; have : s.inside ≠ 1 := fun e => hfree (h.flag.mpr e); omega
  exact ⟨by rw [hi, hh, h.inside], by rw [hw, hi, h0]; simp, by omega,
    by rw [hm, h0]; exact Nat.max_le.mpr ⟨h.maxle, Nat.le_refl _⟩, fun _ => .inl hw⟩

theorem WInv.release {s s' : WState} (h : WInv s) (hh : holders s' + 1 = holders s)
    (hi : s'.inside = s.inside - 1) (hw : s'.writing = false) (hm : s'.maxInside = s.maxInside)
    (hk : s'.sl = .parked → s'.token = true) : WInv s' := by
  have h1 : s.inside = 1 := by have := h.le; have := h.inside; omega
  exact ⟨by have := h.inside; omega, by rw [hw, hi, h1]; simp, by omega, hm ▸ h.maxle, fun e => .inr (hk e)⟩

theorem stepW_inv (s : WState) (t : Nat) (h : WInv s) : WInv (stepW s t) := by
  unfold stepW
  cases ht : s.ws[t]? with
  | none => exact h
  | some pc =>
    have hc := fun new => countP_set_add (· == WPc.holding) new ht
    have e : ∀ a : WPc, (a == WPc.holding).toNat = if a = .holding then 1 else 0 := fun a => by cases a <;> rfl
    simp only [e] at hc
    cases pc with
    | done => exact h
    | idle =>
      by_cases hw : s.writing = true
      · -- slow path: the event is handed to the send loop
        rw [if_pos hw]
        exact h.frame (congrArg (· + _) (by simpa using hc .done)) rfl rfl rfl h.wake
      · rw [if_neg hw]
        exact h.acquire hw (by have := hc .holding; simp only [holders]; simp at this; omega) rfl rfl rfl
    | holding =>
      exact h.release (by have := hc .done; simp only [holders]; simp at this; omega) rfl rfl rfl fun _ => rfl

theorem stepS_inv (s : WState) (h : WInv s) : WInv (stepS s) := by
  unfold stepS
  cases hsl : s.sl with
  | waitItem =>
    by_cases hq : s.sendCh > 0
    · rw [if_pos hq]; exact h.frame (by simp [holders, hsl]) rfl rfl rfl (by simp)
    · rw [if_neg hq]; exact h
  | tryCas =>
    by_cases hw : s.writing = true
    · rw [if_pos hw]; exact h.frame (by simp [holders, hsl]) rfl rfl rfl fun _ => .inl hw
    · rw [if_neg hw]; exact h.acquire hw (by simp [holders, hsl]) rfl rfl rfl
  | parked =>
    by_cases hk : s.token = true
    · rw [if_pos hk]; exact h.frame (by simp [holders, hsl]) rfl rfl rfl (by simp)
    · rw [if_neg hk]; exact h
  | holding => exact h.release (by simp [holders, hsl]) rfl rfl rfl (by simp)

theorem runWS_inv (s : WState) (sched : List Who) (h : WInv s) : WInv (runWS s sched) :=
  foldlRecOn sched stepWS h fun s hb w _ => by
    cases w with
    | none => exact stepS_inv s hb
    | some t => exact stepW_inv s t hb

end EventConn

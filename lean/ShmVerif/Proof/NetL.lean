import ShmVerif.Model.NetL
import ShmVerif.Proof.Lists
/-! Invariant of the net.Listener adapter model, for every operation sequence. -/
namespace NetL
open List

def isOpen (k : Nat) (c : Conn) : Bool := c.sess == k && !c.closed

/-- session `k` is accounted for: its counter is the listener's reference plus its open conns, at zero it has been
    closed, and a closed listener holds no reference -/
structure SessOK (l : L) (k : Nat) (x : Sess) : Prop where
  refs : x.refs = x.listed.toNat + l.conns.countP (isOpen k)
  zero : x.refs = 0 → x.closed = true
  shut : l.closed = true → x.listed = false

structure Inv (l : L) : Prop where
  sess : ∀ (k : Nat) (x : Sess), l.sess[k]? = some x → SessOK l k x
  /-- no wrapped stream is lost: while it is open it waits in the backlog or Accept has handed it out -/
  cover : ∀ (c : Nat) (x : Conn), l.conns[c]? = some x → x.closed = true ∨ c ∈ l.backlog ∨ c ∈ l.handed
  /-- none surfaces twice -/
  nodup : (l.backlog ++ l.handed).Nodup
  /-- what waits or was handed out has been wrapped (so the next wrapper's id is new) -/
  bound : ∀ c ∈ l.backlog ++ l.handed, c < l.conns.length
  /-- every wrapper belongs to a session that exists (so a new session starts with no open conn) -/
  csess : ∀ x ∈ l.conns, x.sess < l.sess.length
  /-- a closed listener has drained its backlog: Accept finds nothing and returns -/
  shut : l.closed = true → l.backlog = []

theorem mem_set_sess {l : List Sess} {k : Nat} {y : Sess} {x : Sess} (h : x ∈ l.set k y) : x ∈ l ∨ x = y :=
  List.mem_or_eq_of_mem_set h

theorem inv_init (cap : Nat) : Inv { cap := cap } := by
  constructor <;> simp

theorem SessOK.congr {l l' : L} {k : Nat} {x : Sess} (h : SessOK l k x)
    (hc : l'.conns.countP (isOpen k) = l.conns.countP (isOpen k)) (hcl : l'.closed = true → l.closed = true) : SessOK l' k x :=
  ⟨hc ▸ h.refs, h.zero, fun h1 => h.shut (hcl h1)⟩

/-- giving the listener's reference back (`unlist`), like closing an open conn, finds the counter positive: this is what
    makes the model's truncated `refs - 1` the decrement of the Go wait group (which would panic below zero) -/
theorem SessOK.pos {l : L} {k : Nat} {x : Sess} (h : SessOK l k x) (hl : x.listed = true) : 1 ≤ x.refs := by
  have := h.refs; rw [hl, Bool.toNat_true] at this; omega

theorem inv_newSess {l : L} (h : Inv l) : Inv (newSess l) := by
  have e : newSess l = { l with sess := l.sess ++
      [if l.closed then { refs := 0, listed := false, closed := true, accepting := false } else {}] } := by
    unfold newSess; split <;> rfl
  rw [e]
  refine ⟨forall_getElem?_concat (fun k x hx => (h.sess k x hx).congr rfl id) ?_, h.cover, h.nodup, h.bound, ?_, h.shut⟩
  · -- no conn belongs to the new session yet
    have h0 : l.conns.countP (isOpen l.sess.length) = 0 := by
      apply List.countP_eq_zero.mpr
      intro x hx; have := h.csess x hx
      simp [isOpen]; omega
    by_cases hc : l.closed = true
    · rw [if_pos hc]; exact ⟨by simp [h0], fun _ => rfl, fun _ => rfl⟩
    · rw [if_neg hc]; exact ⟨by simp [h0], nofun, fun h1 => absurd h1 hc⟩
  · intro x hx; have := h.csess x hx; simp; omega

theorem inv_updS {l : L} (h : Inv l) (k : Nat) (f : Sess → Sess) (hf : ∀ x, SessOK l k x → SessOK l k (f x)) :
    Inv (updS l k f) := by
  unfold updS
  cases hx : l.sess[k]? with
  | none => exact h
  | some x =>
    exact ⟨forall_getElem?_set (fun k' z _ hz => (h.sess k' z hz).congr rfl id) ((hf x (h.sess k x hx)).congr rfl id),
      h.cover, h.nodup, h.bound, fun x hx => by simpa using h.csess x hx, h.shut⟩

/-- The two exits of `closeConn`: a conn that does not exist or is closed already is left alone; otherwise its flag is
    set and its session's reference given back. -/
theorem closeConn_cases (l : L) (c : Nat) :
    (closeConn l c = l ∧ ∀ x, l.conns[c]? = some x → x.closed = true) ∨
    ∃ x, l.conns[c]? = some x ∧ x.closed = false ∧
      closeConn l c = done { l with conns := l.conns.set c { x with closed := true } } x.sess := by
  unfold closeConn
  cases l.conns[c]? with
  | none => exact .inl ⟨rfl, nofun⟩
  | some x =>
    by_cases hxc : x.closed = true
    · exact .inl ⟨if_pos hxc, fun _ hy => Option.some.inj hy ▸ hxc⟩
    · exact .inr ⟨x, rfl, Bool.eq_false_iff.mpr hxc, if_neg hxc⟩

theorem done_frame (l : L) (k : Nat) : (done l k).backlog = l.backlog ∧ (done l k).conns = l.conns := by
  unfold done updS; split <;> exact ⟨rfl, rfl⟩

theorem inv_closeConn {l : L} (h : Inv l) (c : Nat) : Inv (closeConn l c) := by
  rcases closeConn_cases l c with ⟨h0, _⟩ | ⟨x, hx, hxc, h0⟩ <;> rw [h0]
  · exact h
  rw [done]
  have hk : x.sess < l.sess.length := h.csess x (List.mem_of_getElem? hx)
  have hy : l.sess[x.sess]? = some l.sess[x.sess] := List.getElem?_eq_getElem hk
  have hs := h.sess _ _ hy
  generalize l.sess[x.sess] = y at hy hs
  -- one open conn less, of session `x.sess`
  have hcnt : ∀ k, (l.conns.set c { x with closed := true }).countP (isOpen k) + (x.sess == k).toNat =
      l.conns.countP (isOpen k) := by
    intro k
    have := List.countP_set_add (isOpen k) { x with closed := true } hx
    simpa [isOpen, hxc] using this
  simp only [updS, hy]
  refine ⟨forall_getElem?_set (fun k' z hk' hz => (h.sess k' z hz).congr ?_ id) ⟨?_, ?_, hs.shut⟩,
    forall_getElem?_set (fun c' z _ hz => h.cover c' z hz) (.inl rfl), h.nodup, by simpa using h.bound, ?_, h.shut⟩
  · have := hcnt k'; rw [beq_false_of_ne (Ne.symm hk')] at this; exact this
  · have h1 := hcnt x.sess; rw [beq_self_eq_true, Bool.toNat_true] at h1
    have := hs.refs; show y.refs - 1 = y.listed.toNat + (l.conns.set c _).countP (isOpen x.sess); omega
  · intro h0; simp [show y.refs - 1 = 0 from h0]
  · intro z hz
    rw [List.length_set]
    rcases List.mem_or_eq_of_mem_set hz with h1 | h1
    · exact h.csess z h1
    · subst h1; exact hk

theorem closeConn_backlog (l : L) (c : Nat) : (closeConn l c).backlog = l.backlog := by
  rcases closeConn_cases l c with ⟨h0, _⟩ | ⟨_, _, _, h0⟩ <;> rw [h0]
  exact (done_frame _ _).1

theorem closeConn_conns (l : L) (c c' : Nat) :
    (closeConn l c).conns[c']? = (l.conns[c']?).map fun y => if c' = c then { y with closed := true } else y := by
  rcases closeConn_cases l c with ⟨h0, hcl⟩ | ⟨x, hx, _, h0⟩ <;> rw [h0]
  · cases hy : l.conns[c']? with
    | none => rfl
    | some y =>
      by_cases hc : c' = c
      · have := hcl y (hc ▸ hy); cases y; simp_all
      · simp [hc]
  · rw [(done_frame _ _).2, List.getElem?_set]
    by_cases hc : c = c'
    · subst hc; obtain ⟨hlt, hxe⟩ := List.getElem?_eq_some_iff.mp hx; simp [hlt, hxe]
    · simp [hc, Ne.symm hc]

theorem closeConns_conns (cs : List Nat) (c : Nat) : ∀ l : L,
    (cs.foldl closeConn l).conns[c]? = (l.conns[c]?).map fun y => if c ∈ cs then { y with closed := true } else y := by
  induction cs with
  | nil => intro l; simp
  | cons c' cs ih =>
    intro l
    rw [List.foldl_cons, ih, closeConn_conns]
    cases l.conns[c]? with
    | none => rfl
    | some y => by_cases h1 : c = c' <;> by_cases h2 : c ∈ cs <;> simp [h1, h2]

theorem inv_drain {l : L} (h : Inv l) : Inv (drain l) := by
  unfold drain
  have hi : Inv (l.backlog.foldl closeConn l) := List.foldlRecOn _ _ h fun _ hb c _ => inv_closeConn hb c
  have f1 : (l.backlog.foldl closeConn l).backlog = l.backlog :=
    List.foldlRecOn (motive := fun b => b.backlog = l.backlog) _ _ rfl fun b hb c _ => (closeConn_backlog b c).trans hb
  refine ⟨fun k x hx => (hi.sess k x hx).congr rfl id, ?_, ?_, ?_, hi.csess, fun _ => rfl⟩
  · intro c x hx
    rcases hi.cover c x hx with h1 | h1 | h1
    · exact .inl h1
    · -- it was waiting in the backlog, so the fold has closed it
      rw [f1] at h1; rw [closeConns_conns] at hx
      cases hy : l.conns[c]? <;> simp [hy, h1] at hx
      exact .inl (hx ▸ rfl)
    · exact .inr (.inr h1)
  · have := hi.nodup; rw [f1] at this; exact (List.nodup_append.mp this).2.1
  · intro c hc; exact hi.bound c (List.mem_append_right _ hc)

theorem inv_stream {l : L} (h : Inv l) (k : Nat) : Inv (stream l k) := by
  unfold stream
  cases hx : l.sess[k]? with
  | none => exact h
  | some x =>
  show Inv (if _ then l else if l.closed then _ else _)
  by_cases h1 : (!x.accepting ∨ l.backlog.length ≥ l.cap)
  · rw [if_pos h1]; exact h
  rw [if_neg h1]
  by_cases hcl : l.closed = true
  · rw [if_pos hcl]; exact inv_updS h k _ fun y hy => ⟨hy.refs, hy.zero, hy.shut⟩
  rw [if_neg hcl]
  simp only [updS, hx]
  have hk : k < l.sess.length := (List.getElem?_eq_some_iff.mp hx).1
  have hs := h.sess k x hx
  -- one open conn more, of session `k`; its id is new
  have hcnt : ∀ k', (l.conns ++ [({ sess := k, sid := x.nextSid } : Conn)]).countP (isOpen k') =
      l.conns.countP (isOpen k') + (if k = k' then 1 else 0) := by
    intro k'; by_cases hkk : k = k' <;> simp [List.countP_append, isOpen, hkk]
  have hnew : l.conns.length ∉ l.backlog ++ l.handed := fun hm => Nat.lt_irrefl _ (h.bound _ hm)
  have hp : ((l.backlog ++ [l.conns.length]) ++ l.handed).Perm (l.conns.length :: (l.backlog ++ l.handed)) := by
    rw [List.append_assoc]; exact List.perm_middle
  refine ⟨forall_getElem?_set (fun k' z hk' hz => (h.sess k' z hz).congr ?_ id) ⟨?_, nofun, fun h1 => absurd h1 hcl⟩,
    forall_getElem?_concat (fun c z hz => ?_) (.inr (.inl (by simp))), ?_, ?_, ?_, fun h1 => absurd h1 hcl⟩
  · rw [hcnt, if_neg (Ne.symm hk')]; rfl
  · have := hs.refs; show x.refs + 1 = x.listed.toNat + _; rw [hcnt, if_pos rfl]; omega
  · exact (h.cover c z hz).imp_right (.imp_left (List.mem_append_left _))
  · exact hp.nodup_iff.mpr (List.nodup_cons.mpr ⟨hnew, h.nodup⟩)
  · intro c hc
    rw [List.length_append, List.length_singleton]
    rcases List.mem_cons.mp (hp.mem_iff.mp hc) with h1 | h1
    · exact h1 ▸ Nat.lt_succ_self _
    · exact Nat.lt_succ_of_lt (h.bound c h1)
  · intro z hz
    rw [List.length_set]
    rcases List.mem_append.mp hz with h1 | h1
    · exact h.csess z h1
    · simp at h1; subst h1; exact hk

theorem inv_accept {l : L} (h : Inv l) : Inv (accept l).1 := by
  unfold accept
  split
  · rename_i c rest hb
    -- `c` moves from the head of the backlog to the end of the handed-out list
    have hp : (rest ++ (l.handed ++ [c])).Perm (l.backlog ++ l.handed) := by
      rw [hb, ← List.append_assoc]
      exact (List.perm_append_singleton c (rest ++ l.handed)).trans (by simp)
    refine ⟨fun k x hx => (h.sess k x hx).congr rfl id, ?_, hp.nodup_iff.mpr h.nodup, fun c' hc' => h.bound c' (hp.mem_iff.mp hc'),
      h.csess, ?_⟩
    · exact fun c' z hz => (h.cover c' z hz).imp_right fun h1 => List.mem_append.mp (hp.mem_iff.mpr (List.mem_append.mpr h1))
    · intro hc; have := h.shut hc; rw [hb] at this; cases this
  · exact h

theorem unlist_ok {l : L} {k : Nat} {x : Sess} (h : SessOK l k x) :
    SessOK l k (unlist x) ∧ (unlist x).listed = false := by
  unfold unlist
  by_cases hl : x.listed = true
  · have := h.pos hl; have := h.refs
    rw [if_pos hl]
    refine ⟨⟨?_, ?_, fun _ => rfl⟩, rfl⟩
    · rw [hl, Bool.toNat_true] at this; show x.refs - 1 = 0 + _; omega
    · intro h0; simp [show x.refs - 1 = 0 from h0]
  · rw [if_neg hl]; exact ⟨h, by simpa using hl⟩

theorem inv_sessGone {l : L} (h : Inv l) (k : Nat) : Inv (sessGone l k) := by
  unfold sessGone
  cases hx : l.sess[k]? with
  | none => exact h
  | some x =>
    show Inv (if _ then _ else _)
    split
    · exact inv_updS h k _ fun y hy => ⟨hy.refs, fun _ => rfl, hy.shut⟩
    · refine inv_updS h k _ fun y hy => ?_
      have hu := (unlist_ok hy).1
      exact ⟨hu.refs, fun _ => rfl, hu.shut⟩

theorem inv_close {l : L} (h : Inv l) : Inv (close l) := by
  unfold close
  have hd := inv_drain h
  have hb : (drain l).backlog = [] := rfl
  generalize drain l = l1 at hd hb
  refine ⟨?_, hd.cover, hd.nodup, hd.bound, fun x hx => by simpa using hd.csess x hx, fun _ => hb⟩
  intro k z hz
  rw [List.getElem?_map] at hz
  cases hy : l1.sess[k]? with
  | none => simp [hy] at hz
  | some y =>
    rw [hy] at hz
    obtain ⟨hu, hl⟩ := unlist_ok (hd.sess k y hy)
    cases hz
    exact ⟨hu.refs, hu.zero, fun _ => hl⟩

theorem inv_step {l : L} (h : Inv l) (op : Op) : Inv (step l op) := by
  cases op with
  | newSess => exact inv_newSess h
  | stream k => exact inv_stream h k
  | sessGone k => exact inv_sessGone h k
  | accept => exact inv_accept h
  | closeConn c => exact inv_closeConn h c
  | close => exact inv_close h

theorem inv_run {l : L} (h : Inv l) (ops : List Op) : Inv (run l ops) :=
  List.foldlRecOn ops step h fun _ hb op _ => inv_step hb op

end NetL

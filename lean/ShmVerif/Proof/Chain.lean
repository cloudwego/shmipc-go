import ShmVerif.Proof.SlotAcct
import ShmVerif.Proof.LBWrite
/-!
  Messages in flight.  A message flushed through shared memory is a chain of slots linked through their headers
  (`IsChain`, and `chain`: what a reader with bounded fuel sees).  `done` writes exactly the send buffer's slices as such a
  chain; `moveChain` / `moveTo` read it back slice by slice; `recycleBuffers` gives its slots back.  `flight` are the slots
  and `flightSlices` the slices of the messages pending towards a stream; both depend only on the headers of those slots.
-/
namespace LB
open List

/-- `cs` is the chain that starts at `off`: linked in this order through the headers, terminated, no empty slice -/
def IsChain (m : Mem) : Nat → List Nat → Prop
  | _, [] => False
  | off, [c] => c = off ∧ off < m.slots.length ∧ (m.slot off).hdr.size ≠ 0 ∧ (m.slot off).hdr.hasNext = false
  | off, c :: d :: r => c = off ∧ off < m.slots.length ∧ (m.slot off).hdr.size ≠ 0 ∧ (m.slot off).hdr.hasNext = true ∧
      (m.slot off).hdr.next = d ∧ IsChain m d (d :: r)

/-- the chain as a reader with `fuel` steps sees it -/
def chain : Nat → Mem → Nat → List Nat
  | 0, _, _ => []
  | f + 1, m, off =>
    if off < m.slots.length then off :: (if (m.slot off).hdr.hasNext then chain f m (m.slot off).hdr.next else [])
    else []

theorem chain_succ (f : Nat) (m : Mem) (off : Nat) : chain (f + 1) m off =
    if off < m.slots.length then off :: (if (m.slot off).hdr.hasNext then chain f m (m.slot off).hdr.next else []) else [] := rfl

/-- a chain, one link at a time: its first slot is where it starts, holds bytes, and is linked on iff there is a rest -/
theorem isChain_cons {m : Mem} {off c : Nat} {r : List Nat} : IsChain m off (c :: r) ↔
    c = off ∧ off < m.slots.length ∧ (m.slot off).hdr.size ≠ 0 ∧ (m.slot off).hdr.hasNext = !r.isEmpty ∧
    (r = [] ∨ IsChain m (m.slot off).hdr.next r) := by
  cases r with
  | nil => simp [IsChain]
  | cons d r =>
    have hd : ∀ x, IsChain m x (d :: r) → d = x := fun x h => by cases r <;> exact h.1
    constructor
    · intro h
      exact ⟨h.1, h.2.1, h.2.2.1, h.2.2.2.1, Or.inr (by rw [h.2.2.2.2.1]; exact h.2.2.2.2.2)⟩
    · rintro ⟨h1, h2, h3, h4, h5 | h5⟩
      · cases h5
      · have := hd _ h5
        exact ⟨h1, h2, h3, h4, this.symm, by rw [← this] at h5; exact h5⟩

theorem IsChain.head {m : Mem} {off : Nat} {cs : List Nat} (h : IsChain m off cs) : ∃ r, cs = off :: r := by
  cases cs with
  | nil => exact absurd h (by simp [IsChain])
  | cons c r => exact ⟨r, by rw [(isChain_cons.mp h).1]⟩

theorem IsChain.lt {m : Mem} : ∀ {cs : List Nat} {off : Nat}, IsChain m off cs → ∀ p ∈ cs, p < m.slots.length
  | [], _, h => absurd h (by simp [IsChain])
  | c :: r, off, h => by
    obtain ⟨rfl, hlt, _, _, ht⟩ := isChain_cons.mp h
    intro p hp
    rcases mem_cons.mp hp with rfl | hp
    · exact hlt
    · rcases ht with rfl | ht
      · cases hp
      · exact IsChain.lt ht p hp

theorem IsChain.frame {m m' : Mem} (hl : m'.slots.length = m.slots.length) : ∀ {cs : List Nat} {off : Nat}, IsChain m off cs →
    (∀ p ∈ cs, (m'.slot p).hdr = (m.slot p).hdr) → IsChain m' off cs
  | [], _, h, _ => absurd h (by simp [IsChain])
  | c :: r, off, h, hh => by
    obtain ⟨rfl, hlt, hsz, hn, ht⟩ := isChain_cons.mp h
    have e := hh c mem_cons_self
    rw [isChain_cons, e, hl]
    exact ⟨rfl, hlt, hsz, hn, ht.imp id (fun ht => IsChain.frame hl ht (fun p hp => hh p (mem_cons_of_mem _ hp)))⟩

/-- one step of a walk along a chain with enough fuel: the link at the head, and either nothing follows or a chain does, with
    enough fuel left -/
theorem IsChain.step {m : Mem} {off c fuel : Nat} {r : List Nat} (h : IsChain m off (c :: r)) (hf : (c :: r).length ≤ fuel) :
    ∃ k, fuel = k + 1 ∧ c = off ∧ off < m.slots.length ∧ (m.slot off).hdr.size ≠ 0 ∧ (m.slot off).hdr.hasNext = !r.isEmpty ∧
      (r = [] ∨ (!r.isEmpty) = true ∧ IsChain m (m.slot off).hdr.next r ∧ r.length ≤ k) := by
  obtain ⟨e, hlt, hsz, hn, ht⟩ := isChain_cons.mp h
  refine ⟨fuel - 1, by simp only [length_cons] at hf; omega, e, hlt, hsz, hn, ht.imp id (fun ht => ⟨?_, ht, ?_⟩)⟩
  · cases r with
    | nil => exact absurd ht (by simp [IsChain])
    | cons _ _ => rfl
  · simp only [length_cons] at hf; omega

theorem chain_of_isChain {m : Mem} : ∀ {cs : List Nat} {off : Nat} (f : Nat), IsChain m off cs → cs.length ≤ f → chain f m off = cs
  | [], _, _, h, _ => absurd h (by simp [IsChain])
  | c :: r, off, f, h, hf => by
    obtain ⟨k, rfl, rfl, hlt, _, hn, rfl | ⟨hr, ht, hk⟩⟩ := h.step hf <;> rw [chain_succ, if_pos hlt, hn]
    · rfl
    · rw [hr, if_pos rfl, chain_of_isChain k ht hk]

/-- a reader with `f` steps of fuel sees at most `f` slots: the fuel `moveTo` and `recycleBuffers` walk with always suffices -/
theorem chain_length_le (m : Mem) : ∀ (f off : Nat), (chain f m off).length ≤ f
  | 0, _ => Nat.le_refl 0
  | f + 1, off => by
    rw [chain_succ]
    split
    · split
      · exact Nat.succ_le_succ (chain_length_le m f _)
      · exact Nat.succ_le_succ (Nat.zero_le f)
    · exact Nat.zero_le _

theorem reSlice_ok (m : Mem) (i : Nat) (h : i < m.slots.length) : SliceOK m (reSlice m i) := by
  intro j hj
  simp only [reSlice, Option.some.injEq] at hj
  subst hj
  exact ⟨h, rfl⟩

theorem reSlice_untouched {m m' : Mem} (g : Geo m m') {i : Nat} (hh : (m'.slot i).hdr = (m.slot i).hdr) :
    reSlice m' i = reSlice m i := by
  unfold reSlice; rw [g.cap, hh]

theorem heldS_reSlice (m : Mem) (cs : List Nat) : heldS (cs.map (reSlice m)) = cs := by
  induction cs with
  | nil => rfl
  | cons c r ih =>
    rw [map_cons, heldS_cons, ih]
    rfl

def sizes (sl : List BS) : Nat := (sl.map (·.size)).sum

theorem sizes_append (a b : List BS) : sizes (a ++ b) = sizes a + sizes b := by simp [sizes]

/-- pendingData.moveTo for one shared-memory message: its chain is appended to the receive buffer, slice by slice; the
    memory is not touched -/
theorem moveChain_len (m : Mem) : ∀ (cs : List Nat) (off : Nat) (fuel : Nat) (l : LBuf), IsChain m off cs → cs.length ≤ fuel →
    ∃ l', moveChain fuel m l off = some (m, l') ∧ l'.sl = l.sl ++ cs.map (reSlice m) ∧ l'.pinned = l.pinned ∧
      l'.len = l.len + sizes (cs.map (reSlice m))
  | [], _, _, _, h, _ => absurd h (by simp [IsChain])
  | c :: r, off, fuel, l, h, hf => by
    obtain ⟨k, rfl, rfl, hlt, hsz, hn, ht⟩ := h.step hf
    have hsz' : ¬ (reSlice m c).size = 0 := by
      simp only [reSlice, BS.size]; omega
    unfold moveChain
    rw [readSlice_eq m c hlt]
    simp only
    rw [if_neg hsz', hn]
    rcases ht with rfl | ⟨hr, ht, hk⟩
    · exact ⟨_, rfl, rfl, rfl, by simp [LBuf.appendSlice, sizes]⟩
    · rw [hr]
      simp only [if_true]
      obtain ⟨l', e, h1, h2, h3⟩ := moveChain_len m r _ k (l.appendSlice (reSlice m c)) ht hk
      refine ⟨l', e, by rw [h1]; simp [LBuf.appendSlice], by rw [h2]; rfl, ?_⟩
      rw [h3]
      simp only [LBuf.appendSlice, map_cons, sizes, sum_cons]
      omega

theorem moveChain_isChain (m : Mem) : ∀ (cs : List Nat) (off : Nat) (fuel : Nat) (l : LBuf), IsChain m off cs → cs.length ≤ fuel →
    ∃ l', moveChain fuel m l off = some (m, l') ∧ l'.sl = l.sl ++ cs.map (reSlice m) ∧ l'.pinned = l.pinned :=
  fun cs off fuel l h hf =>
    have ⟨l', e, h1, h2, _⟩ := moveChain_len m cs off fuel l h hf
    ⟨l', e, h1, h2⟩

theorem heldS_drop_cons {sl : List BS} {j : Nat} {sj : BS} {ij : Nat} (hs : sl[j]? = some sj) (hi : sj.slot = some ij) :
    heldS (sl.drop j) = ij :: heldS (sl.drop (j + 1)) := by
  obtain ⟨hjl, rfl⟩ := List.getElem?_eq_some_iff.mp hs
  rw [drop_eq_getElem_cons hjl, heldS_cons, heldS_singleton hi]; rfl

/-- after `done`, the headers from the slot of the `j`-th slice on are the chain of the remaining slices, and reading it back
    gives slices with the same unread bytes -/
theorem done_chain (m m1 : Mem) (l : LBuf) (wi : Nat) (hi : WInv m l wi) (ht : wi + 1 = l.sl.length)
    (hne : ∀ t, l.sl[wi]? = some t → t.ri < t.wi) (hf : l.fromShm = true) (D : DoneFold m l (wi + 1) m1) :
    ∀ (n j : Nat) (sj : BS) (ij : Nat), j + n = wi + 1 → 0 < n → l.sl[j]? = some sj → sj.slot = some ij →
      IsChain m1 ij (heldS (l.sl.drop j)) ∧
      content m1 ((heldS (l.sl.drop j)).map (reSlice m1)) = content m (l.sl.drop j) ∧
      SlicesWF m1 ((heldS (l.sl.drop j)).map (reSlice m1)) := by
  intro n
  induction n with
  | zero => intro j sj ij _ h0; omega
  | succ n ih =>
    intro j sj ij hjn _ hsj hij
    obtain ⟨hilt, hsize, hhdr, hun, hwf1⟩ := D.slot hi hne (by omega) hsj hij
    obtain ⟨hjl, ej⟩ := List.getElem?_eq_some_iff.mp hsj
    rw [heldS_drop_cons hsj hij, map_cons, content_cons, drop_eq_getElem_cons hjl, content_cons, ej, hun]
    rcases Nat.lt_or_ge j wi with hlt | hge
    · obtain ⟨sn, hsn⟩ : ∃ s, l.sl[j + 1]? = some s := ⟨l.sl[j + 1]'(by omega), by simp⟩
      obtain ⟨inx, hinx⟩ : ∃ i, sn.slot = some i := Option.isSome_iff_exists.mp (hi.shm hf sn (mem_of_getElem? hsn))
      have hnext : (m1.slot ij).hdr.hasNext = true ∧ (m1.slot ij).hdr.next = inx := by
        rw [hhdr, hsn]; unfold hdrUpd; simp [hinx]
      obtain ⟨IH, c2, w2⟩ := ih (j + 1) sn inx (by omega) (by omega) hsn hinx
      rw [c2]
      rw [heldS_drop_cons hsn hinx] at IH w2 ⊢
      exact ⟨⟨rfl, hilt, hsize, hnext.1, hnext.2, IH⟩, rfl, fun t ht' => (mem_cons.mp ht').elim (fun e => e ▸ hwf1) (w2 t)⟩
    · have hnn : (m1.slot ij).hdr.hasNext = false := by
        rw [hhdr, show l.sl[j + 1]? = none by simp; omega]; unfold hdrUpd
        exact hi.sl.hn ij (mem_filterMap.mpr ⟨sj, mem_of_getElem? hsj, hij⟩)
      rw [show l.sl.drop (j + 1) = [] from drop_eq_nil_of_le (by omega)]
      exact ⟨⟨rfl, hilt, hsize, hnn⟩, rfl, fun t ht' => by rw [mem_singleton.mp ht']; exact hwf1⟩

/-- after `done`, the headers describe exactly the slices of the send buffer, in order -/
theorem done_isChain (m m1 : Mem) (l : LBuf) (wi : Nat) (hi : WInv m l wi) (ht : wi + 1 = l.sl.length)
    (hne : ∀ t, l.sl[wi]? = some t → t.ri < t.wi) (hf : l.fromShm = true) (D : DoneFold m l (wi + 1) m1) :
    ∀ (n j : Nat) (sj : BS) (ij : Nat), j + n = wi + 1 → 0 < n → l.sl[j]? = some sj → sj.slot = some ij →
      IsChain m1 ij (heldS (l.sl.drop j)) :=
  fun n j sj ij hjn hn hsj hij => (done_chain m m1 l wi hi ht hne hf D n j sj ij hjn hn hsj hij).1

/-- bufferManager.recycleBuffers on a chain: every slot of the chain goes back, once -/
theorem recycleChain_acct : ∀ (cs : List Nat) (m : Mem) (off : Nat) (fuel : Nat), Shape m → IsChain m off cs → cs.Nodup →
    cs.length ≤ fuel →
    Geo m (m.recycleChain fuel off) ∧ Shape (m.recycleChain fuel off) ∧
    (∀ j, fc (m.recycleChain fuel off) j = fc m j + cs.count j) ∧
    (∀ p, p ∉ cs → ((m.recycleChain fuel off).slot p).hdr = (m.slot p).hdr) ∧
    (∀ j, ((m.recycleChain fuel off).slot j).data = (m.slot j).data) ∧
    ((∀ i ∈ m.free.flatten, (m.slot i).hdr.size = 0 ∧ (m.slot i).hdr.start = 0) →
      ∀ i ∈ (m.recycleChain fuel off).free.flatten,
        ((m.recycleChain fuel off).slot i).hdr.size = 0 ∧ ((m.recycleChain fuel off).slot i).hdr.start = 0)
  | [], _, _, _, _, h, _, _ => absurd h (by simp [IsChain])
  | c :: r, m, off, fuel, hs, h, hn, hf => by
    obtain ⟨k, rfl, rfl, hlt, _, hnx, ht⟩ := h.step hf
    obtain ⟨g, s', c1, h1, hcl⟩ := recycle_acct m (reSlice m c) hs (reSlice_ok m c hlt)
    have e : heldS [reSlice m c] = [c] := rfl
    rw [e] at c1 h1
    unfold Mem.recycleChain
    rw [readSlice_eq m c hlt]
    simp only [hnx]
    rcases ht with rfl | ⟨hr, ht, hk⟩
    · simp only [isEmpty_nil, Bool.not_true, Bool.false_eq_true, if_false]
      exact ⟨g, s', c1, h1, recycle_data m _, hcl⟩
    · simp only [hr, if_true]
      have hnd := nodup_cons.mp hn
      -- the rest of the chain does not contain it, so it is still a chain
      have hch := IsChain.frame g.len ht (fun p hp => h1 p (fun hx => hnd.1 (by rw [mem_singleton.mp hx] at hp; exact hp)))
      obtain ⟨g2, s2, c2, h2, -, cl2⟩ := recycleChain_acct r _ _ k s' hch hnd.2 hk
      refine ⟨g.trans g2, s2, fun j => ?_, fun p hp => ?_, fun j => by rw [recycleChain_data, recycle_data], fun hc => cl2 (hcl hc)⟩
      · rw [c2, c1]
        simp only [count_cons, count_nil]
        omega
      · rw [h2 p (fun hx => hp (mem_cons_of_mem _ hx)), h1 p (fun hx => hp (by rw [mem_singleton.mp hx]; exact mem_cons_self))]

/-- the slots of the messages in flight towards a stream -/
def flight (m : Mem) (ws : List Wrap) : List Nat :=
  ws.flatMap (fun w => match w with | .shm off => chain m.slots.length m off | .fb _ => [])

/-- a pending entry: the headers hold a chain from its offset on, or it is a heap slice -/
def PendOK (m : Mem) (w : Wrap) : Prop :=
  match w with
  | .shm off => IsChain m off (chain m.slots.length m off)
  | .fb s => s.slot = none

def PendsOK (m : Mem) (ws : List Wrap) : Prop := ∀ w ∈ ws, PendOK m w

theorem flight_cons (m : Mem) (w : Wrap) (ws : List Wrap) : flight m (w :: ws) = flight m [w] ++ flight m ws := by
  simp [flight]

theorem flight_append (m : Mem) (a b : List Wrap) : flight m (a ++ b) = flight m a ++ flight m b := by
  simp [flight]

@[simp] theorem flight_nil (m : Mem) : flight m [] = [] := rfl

theorem flight_shm (m : Mem) (off : Nat) : flight m [.shm off] = chain m.slots.length m off := by
  simp [flight]

/-- the slices a pending entry will be read as: its chain re-read through the headers, or the heap slice of a fall-back
    event; `flightSlices`: those of all pending entries, in arrival order -/
def wrapSlices (m : Mem) (w : Wrap) : List BS :=
  match w with
  | .shm off => (chain m.slots.length m off).map (reSlice m)
  | .fb s => [s]

def flightSlices (m : Mem) (ws : List Wrap) : List BS := ws.flatMap (wrapSlices m)

theorem flightSlices_cons (m : Mem) (w : Wrap) (ws : List Wrap) : flightSlices m (w :: ws) = wrapSlices m w ++ flightSlices m ws := by
  simp [flightSlices]

theorem flightSlices_append (m : Mem) (a b : List Wrap) : flightSlices m (a ++ b) = flightSlices m a ++ flightSlices m b := by
  simp [flightSlices]

theorem heldS_wrapSlices (m : Mem) (w : Wrap) (hw : PendOK m w) : heldS (wrapSlices m w) = flight m [w] := by
  cases w with
  | shm off => simp [wrapSlices, flight, heldS_reSlice]
  | fb s =>
    have : s.slot = none := hw
    simp [wrapSlices, flight, heldS, this]

theorem heldS_flightSlices (m : Mem) : ∀ (ws : List Wrap), PendsOK m ws → heldS (flightSlices m ws) = flight m ws
  | [], _ => rfl
  | w :: ws, h => by
    rw [flightSlices_cons, heldS_append, heldS_wrapSlices m w (h w mem_cons_self),
      heldS_flightSlices m ws (fun w' hw' => h w' (mem_cons_of_mem _ hw'))]
    exact (flight_cons m w ws).symm

theorem flightSlices_ok {m : Mem} : ∀ {ws : List Wrap}, PendsOK m ws → SlicesOK m (flightSlices m ws)
  | [], _ => fun _ h => nomatch h
  | w :: ws, hp => by
    rw [flightSlices_cons]
    intro t ht
    rcases mem_append.mp ht with ht | ht
    · have hw := hp w mem_cons_self
      cases w with
      | fb s =>
        rw [mem_singleton.mp ht]
        intro i hi
        rw [show s.slot = none from hw] at hi; cases hi
      | shm off =>
        obtain ⟨i, hi, rfl⟩ := mem_map.mp ht
        exact reSlice_ok m i (IsChain.lt hw i hi)
    · exact flightSlices_ok (fun w' hw' => hp w' (mem_cons_of_mem _ hw')) t ht

theorem PendOK.foreign {m m' : Mem} (g : Geo m m') {w : Wrap} (h : PendOK m w)
    (hh : ∀ p ∈ flight m [w], (m'.slot p).hdr = (m.slot p).hdr) :
    PendOK m' w ∧ flight m' [w] = flight m [w] ∧ wrapSlices m' w = wrapSlices m w := by
  cases w with
  | fb s => exact ⟨h, rfl, rfl⟩
  | shm off =>
    rw [flight_shm] at hh
    -- the same chain in `m'`, so `m'` reads the same chain
    have h' : IsChain m' off (chain m.slots.length m off) := IsChain.frame g.len h hh
    have hc : chain m'.slots.length m' off = chain m.slots.length m off :=
      chain_of_isChain _ h' (by rw [g.len]; exact chain_length_le m _ off)
    refine ⟨?_, by rw [flight_shm, flight_shm, hc], ?_⟩
    · show IsChain m' off (chain m'.slots.length m' off)
      rw [hc]; exact h'
    · simp only [wrapSlices, hc]
      exact map_congr_left (fun i hi => reSlice_untouched g (hh i hi))

theorem PendsOK.frame {m m' : Mem} (g : Geo m m') : ∀ {ws : List Wrap}, PendsOK m ws →
    (∀ p ∈ flight m ws, (m'.slot p).hdr = (m.slot p).hdr) →
    PendsOK m' ws ∧ flight m' ws = flight m ws ∧ flightSlices m' ws = flightSlices m ws
  | [], _, _ => ⟨(fun _ h => nomatch h), rfl, rfl⟩
  | w :: ws, h, hh => by
    rw [flight_cons] at hh
    obtain ⟨a1, a2, a3⟩ := (h w mem_cons_self).foreign g (fun p hp => hh p (mem_append_left _ hp))
    obtain ⟨b1, b2, b3⟩ := PendsOK.frame g (fun w' hw' => h w' (mem_cons_of_mem _ hw')) (fun p hp => hh p (mem_append_right _ hp))
    refine ⟨fun w' hw' => ?_, by rw [flight_cons, a2, b2, ← flight_cons], by rw [flightSlices_cons, a3, b3, ← flightSlices_cons]⟩
    rcases mem_cons.mp hw' with rfl | hw'
    · exact a1
    · exact b1 w' hw'

theorem PendsOK.foreign {m m' : Mem} (g : Geo m m') : ∀ {ws : List Wrap}, PendsOK m ws →
    (∀ p ∈ flight m ws, (m'.slot p).hdr = (m.slot p).hdr) → PendsOK m' ws ∧ flight m' ws = flight m ws :=
  fun h hh => ⟨(PendsOK.frame g h hh).1, (PendsOK.frame g h hh).2.1⟩

/-- pendingData.clear for one entry: the chain of a shared-memory message goes back (it visits no slot twice), a fall-back
    payload holds nothing -/
theorem clear1_acct {m : Mem} {w : Wrap} (hs : Shape m) (hw : PendOK m w) (hn : (flight m [w]).Nodup) :
    Geo m (clear1 m w) ∧ Shape (clear1 m w) ∧ (∀ j, fc (clear1 m w) j = fc m j + (flight m [w]).count j) ∧
    (∀ p, p ∉ flight m [w] → ((clear1 m w).slot p).hdr = (m.slot p).hdr) ∧
    (∀ j, ((clear1 m w).slot j).data = (m.slot j).data) ∧
    ((∀ i ∈ m.free.flatten, (m.slot i).hdr.size = 0 ∧ (m.slot i).hdr.start = 0) →
      ∀ i ∈ (clear1 m w).free.flatten, ((clear1 m w).slot i).hdr.size = 0 ∧ ((clear1 m w).slot i).hdr.start = 0) := by
  cases w with
  | fb s => exact ⟨Geo.refl m, hs, fun _ => rfl, fun _ _ => rfl, fun _ => rfl, fun hc => hc⟩
  | shm off =>
    rw [flight_shm] at hn ⊢
    exact recycleChain_acct _ m off m.slots.length hs hw hn (chain_length_le m _ off)

theorem count_chain_le_flight (m : Mem) (p off : Nat) : ∀ (ws : List Wrap), Wrap.shm off ∈ ws →
    (chain m.slots.length m off).count p ≤ (flight m ws).count p
  | [], h => nomatch h
  | w :: ws, h => by
    rw [flight_cons, count_append]
    rcases mem_cons.mp h with rfl | h
    · simp [flight]
    · have := count_chain_le_flight m p off ws h; omega

/-- after `done`, the message that starts at the slot of the first slice is the send buffer's slices, in order -/
theorem done_flight {m m1 : Mem} {l : LBuf} {wi off : Nat} {f : BS} (hi : WInv m l wi) (ht : wi + 1 = l.sl.length)
    (hne : ∀ t, l.sl[wi]? = some t → t.ri < t.wi) (hf : l.fromShm = true) (D : DoneFold m l (wi + 1) m1)
    (h0 : l.sl[0]? = some f) (hs : f.slot = some off) :
    PendsOK m1 [.shm off] ∧ flight m1 [.shm off] = heldS l.sl ∧ chain m1.slots.length m1 off = heldS l.sl := by
  have IC := done_isChain m m1 l wi hi ht hne hf D (wi + 1) 0 f off (by omega) (by omega) h0 hs
  rw [drop_zero] at IC
  have hch : chain m1.slots.length m1 off = heldS l.sl :=
    chain_of_isChain _ IC (by rw [D.slen]; exact Pigeon.length_le m.slots.length _ hi.sl.nodup hi.sl.lt)
  refine ⟨fun w hw => ?_, by rw [flight_shm, hch], hch⟩
  rw [mem_singleton.mp hw]
  show IsChain m1 off (chain m1.slots.length m1 off)
  rw [hch]; exact IC

/-- the function `moveTo` folds over the pending entries; `moveTo_eq` puts it in place of the model's lambda, by `rfl` -/
def mvStep (acc : Option (Mem × StreamM)) (w : Wrap) : Option (Mem × StreamM) :=
  match acc with
  | none => none
  | some (m, st) =>
    match w with
    | .fb s => some (m, { st with recv := st.recv.appendSlice s, inFallback := true })
    | .shm off =>
      match moveChain (m.slots.length + 2) m st.recv off with
      | none => none
      | some (m', r') => some (m', { st with recv := r' })

theorem moveTo_eq (m : Mem) (st : StreamM) : moveTo m st =
    match st.pending.foldl mvStep (some (m, st)) with
    | none => none
    | some (m, st) => some (m, { st with pending := [] }) := rfl

theorem mv_fold_sl (m : Mem) : ∀ (ws : List Wrap) (st : StreamM), PendsOK m ws →
    ∃ st', ws.foldl mvStep (some (m, st)) = some (m, st') ∧ st'.send = st.send ∧
      st'.recv.pinned = st.recv.pinned ∧ st'.recv.sl = st.recv.sl ++ flightSlices m ws ∧
      st'.recv.len = st.recv.len + sizes (flightSlices m ws)
  | [], st, _ => ⟨st, rfl, rfl, rfl, by simp [flightSlices], by simp [flightSlices, sizes]⟩
  | w :: ws, st, hp => by
    rw [foldl_cons]
    have hw := hp w mem_cons_self
    cases w with
    | fb s =>
      obtain ⟨st', e, h1, h3, h4, h5⟩ := mv_fold_sl m ws { st with recv := st.recv.appendSlice s, inFallback := true }
        (fun w' hw' => hp w' (mem_cons_of_mem _ hw'))
      refine ⟨st', e, h1, h3, ?_, ?_⟩
      · rw [h4, flightSlices_cons]; simp [LBuf.appendSlice, wrapSlices]
      · rw [h5, flightSlices_cons, sizes_append]; simp only [LBuf.appendSlice, wrapSlices, sizes, map_cons, map_nil, sum_cons, sum_nil]; omega
    | shm off =>
      have hc : IsChain m off (chain m.slots.length m off) := hw
      obtain ⟨r', e1, e2, e3, e4⟩ := moveChain_len m _ off (m.slots.length + 2) st.recv hc
        (Nat.le_trans (chain_length_le m _ off) (Nat.le_add_right _ 2))
      have estep : mvStep (some (m, st)) (.shm off) = some (m, { st with recv := r' }) := by
        simp only [mvStep, e1]
      rw [estep]
      obtain ⟨st', e, h1, h3, h4, h5⟩ := mv_fold_sl m ws { st with recv := r' }
        (fun w' hw' => hp w' (mem_cons_of_mem _ hw'))
      refine ⟨st', e, h1, by rw [h3]; exact e3, ?_, ?_⟩
      · rw [h4, flightSlices_cons]; simp [e2, wrapSlices]
      · rw [h5, flightSlices_cons, sizes_append]; simp only [e4, wrapSlices]; omega

/-- readMore: what is in flight towards the stream is appended to its receive buffer, slice by slice; the memory is not
    touched -/
theorem moveTo_spec {m : Mem} {X : StreamM} (hp : PendsOK m X.pending) :
    ∃ X', moveTo m X = some (m, X') ∧ X'.send = X.send ∧ X'.pending = [] ∧ X'.recv.pinned = X.recv.pinned ∧
      X'.recv.sl = X.recv.sl ++ flightSlices m X.pending ∧ X'.recv.len = X.recv.len + sizes (flightSlices m X.pending) := by
  obtain ⟨st', e, h1, h3, h4, h5⟩ := mv_fold_sl m X.pending X hp
  exact ⟨{ st' with pending := [] }, by rw [moveTo_eq, e], h1, rfl, h3, h4, h5⟩

end LB

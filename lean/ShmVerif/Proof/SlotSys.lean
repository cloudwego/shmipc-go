import ShmVerif.Proof.Chain
/-!
  Slot accounting of a whole stream pair: two send buffers, two receive buffers, the messages in flight between them
  (chains through the slot headers), one shared memory.
-/
namespace LB
open List

/-- slot `p` is not freed and neither its header nor its payload is written -/
def Untouched (m m' : Mem) (p : Nat) : Prop :=
  p ∉ m'.free.flatten ∧ (m'.slot p).hdr = (m.slot p).hdr ∧ (m'.slot p).data = (m.slot p).data

theorem Untouched.trans {m m1 m2 : Mem} {p : Nat} (a : Untouched m m1 p) (b : Untouched m1 m2 p) : Untouched m m2 p :=
  ⟨b.1, b.2.1.trans a.2.1, b.2.2.trans a.2.2⟩

theorem AcctR.frame {m m' : Mem} {l l' : LBuf} (a : AcctR m l m' l') (p : Nat) (hf : p ∉ m.free.flatten) (hl : p ∉ heldL l) :
    Untouched m m' p :=
  ⟨(a.outside hf hl).1, a.hdr p hf hl, a.data p⟩

theorem Acct.frame {m m' : Mem} {l l' : LBuf} (a : Acct m l m' l') (fr : Frame m l m' l') (p : Nat) (hf : p ∉ m.free.flatten)
    (hl : p ∉ heldL l) : Untouched m m' p :=
  ⟨(a.outside hf hl).1, a.hdr p hf hl, fr.data p (fun hx => hl (mem_append_left _ hx)) hf⟩

theorem SlInv.foreign {m m' : Mem} {sl : List BS} (g : Geo m m') (hu : ∀ p ∈ heldS sl, Untouched m m' p) (h : SlInv m sl) :
    SlInv m' sl := by
  refine ⟨fun s hs => ?_, h.nodup, fun i hi => (hu i hi).1, fun i hi => by rw [g.len]; exact h.lt i hi, h.snd,
    fun i hi => by rw [(hu i hi).2.1]; exact h.hn i hi⟩
  obtain ⟨o1, o2, o3⟩ := h.ok s hs
  refine ⟨o1, o2, ?_⟩
  rw [bytes_untouched (fun i hi => (hu i (mem_filterMap.mpr ⟨s, hs, hi⟩)).2.2)]
  exact o3

theorem WInv.foreign {m m' : Mem} {l : LBuf} {wi : Nat} (g : Geo m m') (hu : ∀ p ∈ heldS l.sl, Untouched m m' p)
    (h : WInv m l wi) : WInv m' l wi :=
  ⟨h.sl.foreign g hu, h.w, h.lt, h.tail, h.full, h.shm⟩

theorem WBuf.foreign {m m' : Mem} {l : LBuf} (g : Geo m m') (hu : ∀ p ∈ heldS l.sl, Untouched m m' p) (h : WBuf m l) :
    WBuf m' l := by
  rcases h with h | ⟨wi, hi, ht, hn⟩
  · exact Or.inl h
  · exact Or.inr ⟨wi, hi.foreign g hu, ht, hn⟩

/-- one stream: its buffers point at real slots, its send buffer is as the writer calls leave it, what is in flight towards
    it are chains -/
structure StOK (m : Mem) (st : StreamM) : Prop where
  send : BufOK m st.send
  recv : BufOK m st.recv
  wbuf : WBuf m st.send
  pend : PendsOK m st.pending

def heldSt (m : Mem) (st : StreamM) : List Nat := heldL st.send ++ heldL st.recv ++ flight m st.pending

theorem StOK.foreign {m m' : Mem} {st : StreamM} (g : Geo m m') (hu : ∀ p ∈ heldSt m st, Untouched m m' p) (h : StOK m st) :
    StOK m' st ∧ heldSt m' st = heldSt m st := by
  have hp := PendsOK.foreign g h.pend (fun p hp => (hu p (mem_append_right _ hp)).2.1)
  refine ⟨⟨h.send.geo g, h.recv.geo g, h.wbuf.foreign g (fun p hp => hu p ?_), hp.1⟩, by unfold heldSt; rw [hp.2]⟩
  exact mem_append_left _ (mem_append_left _ (mem_append_left _ hp))

/-- the three places of a stream in which a slot can be; `held` is what it holds in one of them, `heldSt` in all three
    (`count_heldSt`) -/
inductive Buf | send | recv | pend
  deriving DecidableEq

def held (m : Mem) (st : StreamM) : Buf → List Nat
  | .send => heldL st.send
  | .recv => heldL st.recv
  | .pend => flight m st.pending

theorem count_heldSt (m : Mem) (st : StreamM) (p : Nat) : (heldSt m st).count p =
    (held m st .send).count p + (held m st .recv).count p + (held m st .pend).count p := by
  simp only [heldSt, held, count_append]

theorem count_held_add {m : Mem} {st : StreamM} {i j : Buf} (hij : i ≠ j) (p : Nat) :
    (held m st i).count p + (held m st j).count p ≤ (heldSt m st).count p := by
  rw [count_heldSt]
  cases i <;> cases j <;> first | exact absurd rfl hij | omega

theorem count_held_le (m : Mem) (st : StreamM) (i : Buf) (p : Nat) : (held m st i).count p ≤ (heldSt m st).count p := by
  rw [count_heldSt]
  cases i <;> omega

theorem held_sub {m : Mem} {st : StreamM} (i : Buf) {p : Nat} (hp : p ∈ held m st i) : p ∈ heldSt m st :=
  count_pos_iff.mp (Nat.lt_of_lt_of_le (count_pos_iff.mpr hp) (count_held_le m st i p))

/-- the invariant of a stream pair over one memory.  `N` is the number of slots, so that the invariant of a run can name it -/
structure PI (N : Nat) (m : Mem) (X Y : StreamM) : Prop where
  len : m.slots.length = N
  wf : m.WF
  shape : Shape m
  -- no slot has capacity 0, so that a slot which joins a free list meets `Mem.WF.capPos`
  allCap : ∀ i, i < m.slots.length → 0 < (m.slot i).cap
  x : StOK m X
  y : StOK m Y
  -- every slot is in exactly one place: free, or held once by one of the two streams
  part : ∀ j, fc m j + (heldSt m X).count j + (heldSt m Y).count j = if j < m.slots.length then 1 else 0

variable {N : Nat}

theorem PI.symm {m : Mem} {X Y : StreamM} (h : PI N m X Y) : PI N m Y X :=
  ⟨h.len, h.wf, h.shape, h.allCap, h.y, h.x, fun j => by have := h.part j; omega⟩

theorem part_le_one {m : Mem} {X Y : StreamM} (h : PI N m X Y) (j : Nat) :
    fc m j + (heldSt m X).count j + (heldSt m Y).count j ≤ 1 := by
  have := h.part j
  split at this <;> omega

/-- the partition, as it is used: a slot that sits in one place is not free, in no other place of the same stream, and
    nowhere in the other stream -/
theorem PI.apart {m : Mem} {X Y : StreamM} (h : PI N m X Y) {i : Buf} {p : Nat} (hp : p ∈ held m X i) :
    p ∉ m.free.flatten ∧ (∀ j, j ≠ i → p ∉ held m X j) ∧ p ∉ heldSt m Y := by
  have h1 := part_le_one h p
  have hi := count_pos_iff.mpr hp
  have hle := count_held_le m X i p
  refine ⟨fc_zero.mp (by omega), fun j hj => count_eq_zero.mp ?_, count_eq_zero.mp (by omega)⟩
  have := count_held_add (m := m) (st := X) hj p
  omega

/-- A step that leaves alone every allocated slot outside place `i` of `X` leaves alone the other two places of `X`
    and everything `Y` holds. -/
theorem PI.frame {m m' : Mem} {X Y : StreamM} (h : PI N m X Y) (i : Buf)
    (f : ∀ p, p ∉ held m X i → 0 < (heldSt m X).count p + (heldSt m Y).count p → Untouched m m' p) :
    (∀ j, j ≠ i → ∀ p ∈ held m X j, Untouched m m' p) ∧ ∀ p ∈ heldSt m Y, Untouched m m' p := by
  refine ⟨fun j hj p hp => ?_, fun p hp => ?_⟩
  · exact f p ((h.apart hp).2.1 i (Ne.symm hj)) (Nat.add_pos_left (count_pos_iff.mpr (held_sub j hp)) _)
  · have h1 := part_le_one h p
    have := count_pos_iff.mpr hp
    have := count_held_le m X i p
    exact f p (count_eq_zero.mp (by omega)) (by omega)

/-- the frame of an accounting step (`Acct.frame`, `AcctR.frame`: a slot neither free nor the buffer's own is untouched) in the
    form `PI.frame` takes it: a slot some stream holds is not free -/
theorem PI.lift {m m' : Mem} {X Y : StreamM} (h : PI N m X Y) {own : List Nat}
    (f : ∀ p, p ∉ m.free.flatten → p ∉ own → Untouched m m' p) (p : Nat) (hp : p ∉ own)
    (hc : 0 < (heldSt m X).count p + (heldSt m Y).count p) : Untouched m m' p :=
  f p (fc_zero.mp (by have := part_le_one h p; omega)) hp

theorem untouched_refl_of_held {m : Mem} {X Y : StreamM} (h : PI N m X Y) (p : Nat) (hp : p ∈ heldSt m Y) : Untouched m m p := by
  have h1 := part_le_one h p
  have c1 : 0 < (heldSt m Y).count p := count_pos_iff.mpr hp
  exact ⟨fc_zero.mp (by omega), rfl, rfl⟩

theorem wf_of {m m' : Mem} (w : m.WF) (ac : ∀ i, i < m.slots.length → 0 < (m.slot i).cap) (g : Geo m m') (sh : Shape m')
    (dl : ∀ j, (m'.slot j).data.length = (m.slot j).data.length)
    (cl : ∀ i ∈ m'.free.flatten, (m'.slot i).hdr.size = 0 ∧ (m'.slot i).hdr.start = 0)
    (nd : ∀ j, fc m' j ≤ 1) : m'.WF := by
  refine ⟨fun i hi => ?_, sh.freeLt, nodup_iff_count.mpr nd, cl, fun i hi => ?_⟩
  · rw [dl, g.cap]; exact w.dataLen i (by rw [← g.len]; exact hi)
  · rw [g.cap]; exact ac i (by rw [← g.len]; exact sh.freeLt i hi)

/-- putting the invariant together after a step of `X`: `Y` is left alone (but may be sent new messages).  `Mem.WF` needs the
    free lists without duplicates; that follows from the new partition, which is only known in here: hence the shape of `wf'` -/
theorem PI.assemble {m m' : Mem} {X X' Y : StreamM} (h : PI N m X Y) (g : Geo m m') (sh : Shape m')
    (uy : ∀ p ∈ heldSt m Y, Untouched m m' p) (wf' : (∀ j, fc m' j ≤ 1) → m'.WF)
    (okX : StOK m' X') (ws : List Wrap) (pw : PendsOK m' ws)
    (bal : ∀ j, fc m' j + (heldSt m' X').count j + (flight m' ws).count j = fc m j + (heldSt m X).count j) :
    PI N m' X' { Y with pending := Y.pending ++ ws } := by
  obtain ⟨sy, ey⟩ := h.y.foreign g uy
  have hpart : ∀ j, fc m' j + (heldSt m' X').count j + (heldSt m' { Y with pending := Y.pending ++ ws }).count j =
      if j < m'.slots.length then 1 else 0 := by
    intro j
    have e : heldSt m' { Y with pending := Y.pending ++ ws } = heldSt m' Y ++ flight m' ws := by
      simp only [heldSt, flight_append, append_assoc]
    rw [e, count_append, ey, g.len, ← h.part j]
    have := bal j
    omega
  refine ⟨by rw [g.len]; exact h.len, wf' (fun j => ?_), sh,
    fun i hi => by rw [g.cap]; exact h.allCap i (by rw [← g.len]; exact hi), okX,
    ⟨sy.send, sy.recv, sy.wbuf, fun w hw => (mem_append.mp hw).elim (sy.pend w) (pw w)⟩, hpart⟩
  have := hpart j
  split at this <;> omega

/-- ... and nothing is sent to `Y` -/
theorem PI.assemble0 {m m' : Mem} {X X' Y : StreamM} (h : PI N m X Y) (g : Geo m m') (sh : Shape m')
    (uy : ∀ p ∈ heldSt m Y, Untouched m m' p) (wf' : (∀ j, fc m' j ≤ 1) → m'.WF) (okX : StOK m' X')
    (bal : ∀ j, fc m' j + (heldSt m' X').count j = fc m j + (heldSt m X).count j) : PI N m' X' Y := by
  simpa using h.assemble g sh uy wf' okX [] (fun _ hw => nomatch hw) (fun j => by simpa using bal j)

/-- an operation of the reading kind on the receive buffer of `X`; with the invariant, what it leaves alone: the other two
    places of `X` and everything `Y` holds -/
theorem PI.recvStep {m m' : Mem} {X Y : StreamM} {r' : LBuf} (h : PI N m X Y) (a : AcctR m X.recv m' r') :
    PI N m' { X with recv := r' } Y ∧ (∀ j, j ≠ .recv → ∀ p ∈ held m X j, Untouched m m' p) ∧
      ∀ p ∈ heldSt m Y, Untouched m m' p := by
  obtain ⟨ux, uy⟩ := h.frame .recv (h.lift a.frame)
  have hp := PendsOK.foreign a.geo h.x.pend (fun p hp => (ux .pend (by decide) p hp).2.1)
  refine ⟨h.assemble0 a.geo a.shape uy (wf_of h.wf h.allCap a.geo a.shape (fun j => by rw [a.data]) (a.clean h.wf.freeClean))
    ⟨h.x.send.geo a.geo, a.ok, h.x.wbuf.foreign a.geo (fun p hp => ux .send (by decide) p (mem_append_left _ hp)), hp.1⟩
    (fun j => ?_), ux, uy⟩
  have := a.bal j
  simp only [heldSt, hp.2, count_append] at this ⊢
  omega

/-- a writer operation on the send buffer of `X`; with the invariant, what it leaves alone -/
theorem PI.sendStepU {m m' : Mem} {X Y : StreamM} {l' : LBuf} (h : PI N m X Y) (a : Acct m X.send m' l') (wf' : m'.WF)
    (wb : WBuf m' l') (fr : Frame m X.send m' l') :
    PI N m' { X with send := l' } Y ∧ (∀ j, j ≠ .send → ∀ p ∈ held m X j, Untouched m m' p) ∧
      ∀ p ∈ heldSt m Y, Untouched m m' p := by
  obtain ⟨ux, uy⟩ := h.frame .send (h.lift (a.frame fr))
  have hp := PendsOK.foreign a.geo h.x.pend (fun p hp => (ux .pend (by decide) p hp).2.1)
  refine ⟨h.assemble0 a.geo a.shape uy (fun _ => wf') ⟨a.ok, h.x.recv.geo a.geo, wb, hp.1⟩ (fun j => ?_), ux, uy⟩
  have := a.bal j
  simp only [heldSt, hp.2, count_append] at this ⊢
  omega

theorem PI.sendStep {m m' : Mem} {X Y : StreamM} {l' : LBuf} (h : PI N m X Y) (a : Acct m X.send m' l') (wf' : m'.WF)
    (wb : WBuf m' l') (fr : Frame m X.send m' l') : PI N m' { X with send := l' } Y :=
  (h.sendStepU a wf' wb fr).1

/-- the send buffer of `X` is replaced and (possibly) a message is put in flight towards `Y` -/
theorem PI.rebuild {m m' : Mem} {X Y : StreamM} (h : PI N m X Y) (g : Geo m m') (sh : Shape m')
    (unt : ∀ p, p ∉ heldL X.send → 0 < (heldSt m X).count p + (heldSt m Y).count p → Untouched m m' p)
    (dl : ∀ j, (m'.slot j).data.length = (m.slot j).data.length)
    (cl : ∀ i ∈ m'.free.flatten, (m'.slot i).hdr.size = 0 ∧ (m'.slot i).hdr.start = 0)
    (l' : LBuf) (ws : List Wrap) (fbx : Bool) (okl : BufOK m' l') (wbl : WBuf m' l') (pw : PendsOK m' ws)
    (bal : ∀ j, fc m' j + (heldL l').count j + (flight m' ws).count j = fc m j + (heldL X.send).count j) :
    PI N m' { X with send := l', inFallback := fbx } { Y with pending := Y.pending ++ ws } := by
  obtain ⟨ux, uy⟩ := h.frame .send unt
  have hp := PendsOK.foreign g h.x.pend (fun p hp => (ux .pend (by decide) p hp).2.1)
  exact h.assemble g sh uy (wf_of h.wf h.allCap g sh dl cl) (X' := { X with send := l', inFallback := fbx }) ⟨okl, h.x.recv.geo g, wbl, hp.1⟩ ws pw (fun j => by
    have := bal j
    simp only [heldSt, hp.2, count_append] at this ⊢
    omega)

theorem freeClean_done {m m1 : Mem} {l : LBuf} (w : m.WF) (hb : WBuf m l) (hfree : m1.free = m.free)
    (hh : ∀ p, p ∉ heldS l.sl → (m1.slot p).hdr = (m.slot p).hdr) :
    ∀ i ∈ m1.free.flatten, (m1.slot i).hdr.size = 0 ∧ (m1.slot i).hdr.start = 0 := by
  intro i hi
  rw [hfree] at hi
  have hni : i ∉ heldS l.sl := by
    rcases hb with ⟨_, hsl⟩ | ⟨wi, hinv, _, _⟩
    · rw [hsl]; simp
    · exact fun hx => hinv.sl.notFree i hx hi
  rw [hh i hni]
  exact w.freeClean i hi

/-- `done` on the send buffer of `X`: an accounting step that writes nothing but headers of the buffer's own slots -/
theorem PI.done {m m1 : Mem} {X Y : StreamM} (h : PI N m X Y) (hd : X.send.done m = some (m1, X.send)) :
    Acct m X.send m1 X.send ∧ (∀ j, (m1.slot j).data = (m.slot j).data) ∧
    (∀ p, p ∉ m.free.flatten → p ∉ heldL X.send → Untouched m m1 p) ∧
    ∀ i ∈ m1.free.flatten, (m1.slot i).hdr.size = 0 ∧ (m1.slot i).hdr.start = 0 := by
  obtain ⟨_, hfree, hdata, hhdr⟩ := done_facts m X.send m1 X.send h.x.wbuf hd
  exact ⟨done_acct h.shape h.x.send hd, hdata,
    fun p hf hs => ⟨by rw [hfree]; exact hf, hhdr p (fun hx => hs (mem_append_left _ hx)), hdata p⟩,
    freeClean_done h.wf h.x.wbuf hfree hhdr⟩

/-- the heap slice a fall-back event is delivered as; `flush_cases` states the model's `flush` with it, by `rfl` -/
def fbSlice (d : List Nat) : BS := { heap := d, cap := d.length, wi := d.length }

/-- Stream.Flush on a send buffer the writer calls produced, when it does not panic: there is nothing to send; or the
    bytes are copied into a fall-back event and every slice goes back; or `done` has written the chain and the offset of
    its first slot is queued. -/
theorem flush_cases {m : Mem} {X Y : StreamM} (hb : WBuf m X.send) (hr : (flush m X Y).2.2.2 ≠ .panic) :
    (X.send.len = 0 ∧ flush m X Y = (m, X, Y, .noop)) ∨
    ∃ m1, X.send.done m = some (m1, X.send) ∧
      ((flush m X Y = ((X.send.recycle m1).1, { X with send := {}, inFallback := true },
          { Y with pending := Y.pending ++ [.fb (fbSlice (X.send.underlying m1))] }, .fallback)) ∨
       ∃ wi f off, WInv m X.send wi ∧ wi + 1 = X.send.sl.length ∧ (∀ t, X.send.sl[wi]? = some t → t.ri < t.wi) ∧
        X.send.fromShm = true ∧ DoneFold m X.send (wi + 1) m1 ∧ X.send.sl[0]? = some f ∧ f.slot = some off ∧
        flush m X Y = (m1, { X with send := X.send.clean }, { Y with pending := Y.pending ++ [.shm off] }, .shm)) := by
  unfold flush at hr ⊢
  by_cases hl : X.send.len = 0
  · exact Or.inl ⟨hl, by simp only [hl, if_true]⟩
  · simp only [hl, if_false] at hr ⊢
    cases hd : X.send.done m with
    | none => rw [hd] at hr; exact absurd rfl hr
    | some r =>
      obtain ⟨m1, s1⟩ := r
      obtain ⟨rfl, -⟩ := done_facts m X.send m1 s1 hb hd
      rw [hd] at hr
      simp only at hr ⊢
      refine Or.inr ⟨m1, rfl, ?_⟩
      by_cases hfb : (X.inFallback || !X.send.fromShm) = true
      · exact Or.inl (by simp only [hfb, if_true]; rfl)
      · simp only [hfb, Bool.false_eq_true, if_false] at hr ⊢
        have hfs : X.send.fromShm = true := by
          cases h1 : X.send.fromShm with
          | true => rfl
          | false => simp [h1] at hfb
        cases hh : X.send.sl.head? with
        | none => rw [hh] at hr; exact absurd rfl hr
        | some f =>
          rw [hh] at hr
          simp only at hr ⊢
          cases hsl : f.slot with
          | none => rw [hsl] at hr; exact absurd rfl hr
          | some off =>
            rcases hb with ⟨_, hnil⟩ | ⟨wi, hi, ht, hne⟩
            · rw [hnil] at hh; cases hh
            · obtain ⟨m1', hd', D⟩ := done_spec m X.send wi hi ht hfs
              rw [hd] at hd'
              simp only [Option.some.injEq, Prod.mk.injEq] at hd'
              obtain ⟨rfl, _⟩ := hd'
              exact Or.inr ⟨wi, f, off, hi, ht, hne, hfs, D, by rw [← head?_eq_getElem?]; exact hh, hsl, rfl⟩

/-- Stream.Flush: the send buffer goes in flight towards the peer (shared-memory transport) or is copied and given back
    (fall-back transport) -/
theorem PI.flushStep {m : Mem} {X Y : StreamM} (h : PI N m X Y) (hr : (flush m X Y).2.2.2 ≠ .panic) :
    PI N (flush m X Y).1 (flush m X Y).2.1 (flush m X Y).2.2.1 := by
  rcases flush_cases h.x.wbuf hr with ⟨_, e⟩ | ⟨m1, hd, e | ⟨wi, f, off, hi, ht, hne, hfs, D, h0, hs, e⟩⟩ <;> rw [e]
  · exact h
  · -- fall-back transport: every slice goes back
    obtain ⟨a0, hdata, f0, hcl1⟩ := h.done hd
    obtain ⟨aR, hheld⟩ := lrecycle_acct a0.shape a0.ok
    have at' := a0.trans aR.toAcct
    exact h.rebuild at'.geo at'.shape (h.lift (fun p hf hs => (f0 p hf hs).trans (aR.frame p (f0 p hf hs).1 hs)))
      (fun j => by rw [aR.data, hdata]) (aR.clean hcl1) {} _ true (fun t ht => by simp at ht) (Or.inl ⟨rfl, rfl⟩)
      (fun w hw => by rw [mem_singleton.mp hw]; rfl)
      (fun j => by
        have b1 := at'.bal j
        rw [hheld] at b1
        simpa [flight, heldL] using b1)
  · -- shared-memory transport: the slices are now the message in flight
    obtain ⟨a0, hdata, f0, hcl1⟩ := h.done hd
    obtain ⟨pw, efl, _⟩ := done_flight hi ht hne hfs D h0 hs
    exact h.rebuild a0.geo a0.shape (h.lift f0) (fun j => by rw [hdata]) hcl1 X.send.clean _ X.inFallback
      (fun t ht => a0.ok t (by simp only [LBuf.clean, nil_append] at ht; exact mem_append_right _ ht))
      (Or.inl ⟨rfl, rfl⟩) pw
      (fun j => by
        have b1 := a0.bal j
        simp only [efl, heldL, LBuf.clean, heldS_nil, nil_append, count_append] at b1 ⊢
        omega)

theorem chain_nodup {m : Mem} {X Y : StreamM} (h : PI N m X Y) (off : Nat) (hw : Wrap.shm off ∈ X.pending) :
    (chain m.slots.length m off).Nodup := by
  rw [nodup_iff_count]
  intro p
  have h1 := part_le_one h p
  have h2 := count_chain_le_flight m p off X.pending hw
  have h3 := count_held_le m X .pend p
  exact Nat.le_trans h2 (Nat.le_trans h3 (by omega))

/-- the invariant does not notice that the messages in flight towards `X` have joined its receive buffer -/
theorem PI.joined {m : Mem} {X X' Y : StreamM} (h : PI N m X Y) (h1 : X'.send = X.send) (h2 : X'.pending = [])
    (h3 : X'.recv.pinned = X.recv.pinned) (h4 : X'.recv.sl = X.recv.sl ++ flightSlices m X.pending) : PI N m X' Y := by
  refine ⟨h.len, h.wf, h.shape, h.allCap,
    ⟨by rw [h1]; exact h.x.send, ?_, by rw [h1]; exact h.x.wbuf, by rw [h2]; exact fun _ hw => nomatch hw⟩, h.y, fun j => ?_⟩
  · unfold BufOK; rw [h4, h3, append_assoc]
    intro t ht
    rcases mem_append.mp ht with ht | ht
    · exact h.x.recv t (mem_append_left _ ht)
    · rcases mem_append.mp ht with ht | ht
      · exact flightSlices_ok h.x.pend t ht
      · exact h.x.recv t (mem_append_right _ ht)
  · rw [← h.part j]
    simp only [heldSt, heldL, h1, h2, h3, h4, heldS_append, heldS_flightSlices m _ h.x.pend, count_append, flight_nil, count_nil]
    omega

/-- readMore: the messages in flight towards `X` join its receive buffer; the memory is not touched -/
theorem PI.moreStep {m : Mem} {X Y : StreamM} (h : PI N m X Y) : ∃ X', moveTo m X = some (m, X') ∧ PI N m X' Y :=
  have ⟨X', e, h1, h2, h3, h4, _⟩ := moveTo_spec h.x.pend
  ⟨X', e, h.joined h1 h2 h3 h4⟩

/-- an operation of the recycling kind on the send buffer of `X` (Close) -/
theorem PI.sendStepR {m m' : Mem} {X Y : StreamM} {l' : LBuf} (h : PI N m X Y) (a : AcctR m X.send m' l') (wb : WBuf m' l') :
    PI N m' { X with send := l' } Y := by
  have := h.rebuild a.geo a.shape (h.lift a.frame) (fun j => by rw [a.data]) (a.clean h.wf.freeClean) l' [] X.inFallback a.ok wb
    (fun _ hw => nomatch hw) (fun j => by simpa using a.bal j)
  simpa using this

/-- pendingData.clear for the first entry: its chain goes back, nothing else is touched -/
theorem PI.dropPending {m : Mem} {X Y : StreamM} {w : Wrap} {ws : List Wrap} (h : PI N m X Y) (hp : X.pending = w :: ws) :
    PI N (clear1 m w) { X with pending := ws } Y ∧ Geo m (clear1 m w) ∧ ∀ p ∈ heldSt m Y, Untouched m (clear1 m w) p := by
  have hw : w ∈ X.pending := by rw [hp]; exact mem_cons_self
  have hnd : (flight m [w]).Nodup := by
    cases w with
    | fb s => exact nodup_nil
    | shm off => rw [flight_shm]; exact chain_nodup h off hw
  obtain ⟨g, sh, c, hh, hd, hcl⟩ := clear1_acct h.shape (h.x.pend _ hw) hnd
  have f : ∀ p, p ∉ m.free.flatten → p ∉ flight m [w] → Untouched m (clear1 m w) p := fun p hf hc =>
    ⟨fc_zero.mp (by rw [c, count_eq_zero.mpr hc, fc_zero.mpr hf]), hh p hc, hd p⟩
  have hfl : held m X .pend = flight m [w] ++ flight m ws := by rw [← flight_cons, ← hp]; rfl
  obtain ⟨ux, uy⟩ := h.frame .pend (h.lift (fun p hf hx => f p hf (fun hc => hx (by rw [hfl]; exact mem_append_left _ hc))))
  -- the other messages in flight towards `X` do not share a slot with the first
  have ur : ∀ p ∈ flight m ws, Untouched m (clear1 m w) p := fun p hp' => by
    have h1 := part_le_one h p
    have h2 := count_held_le m X .pend p
    rw [hfl, count_append] at h2
    have := count_pos_iff.mpr hp'
    exact f p (fc_zero.mp (by omega)) (count_eq_zero.mp (by omega))
  have hpw := PendsOK.foreign g (fun w' hw' => h.x.pend w' (by rw [hp]; exact mem_cons_of_mem _ hw')) (fun p hp' => (ur p hp').2.1)
  refine ⟨h.assemble0 g sh uy (wf_of h.wf h.allCap g sh (fun j => by rw [hd]) (hcl h.wf.freeClean)) (X' := { X with pending := ws })
    ⟨h.x.send.geo g, h.x.recv.geo g, h.x.wbuf.foreign g (fun p hp' => ux .send (by decide) p (mem_append_left _ hp')), hpw.1⟩
    (fun j => ?_), g, uy⟩
  have e : (heldSt m X).count j = (heldL X.send).count j + (heldL X.recv).count j + (flight m [w] ++ flight m ws).count j := by
    rw [count_heldSt, hfl]; rfl
  rw [c, e]
  simp only [heldSt, hpw.2, count_append]
  omega

/-- a step of `X` followed by another: what `Y` holds is left alone by both -/
theorem peer_trans {m m1 m2 : Mem} {Y : StreamM} (g1 : Geo m m1) (sy : StOK m Y) (u1 : ∀ p ∈ heldSt m Y, Untouched m m1 p)
    (u2 : ∀ p ∈ heldSt m1 Y, Untouched m1 m2 p) : ∀ p ∈ heldSt m Y, Untouched m m2 p :=
  fun p hp => (u1 p hp).trans (u2 p (by rw [(sy.foreign g1 u1).2]; exact hp))

theorem PI.clearStep {Y : StreamM} : ∀ (ws : List Wrap) (m : Mem) (X : StreamM), PI N m X Y → X.pending = ws →
    PI N (clearPending m ws) { X with pending := [] } Y ∧ Geo m (clearPending m ws) ∧
    ∀ p ∈ heldSt m Y, Untouched m (clearPending m ws) p
  | [], m, X, h, hp => by
    have : ({ X with pending := [] } : StreamM) = X := by cases X; simp only at hp; subst hp; rfl
    rw [this]; exact ⟨h, Geo.refl m, fun p hp => untouched_refl_of_held h p hp⟩
  | w :: ws, m, X, h, hp => by
    obtain ⟨h1, g1, u1⟩ := h.dropPending hp
    obtain ⟨h2, g2, u2⟩ := PI.clearStep ws (clear1 m w) { X with pending := ws } h1 rfl
    exact ⟨h2, g1.trans g2, peer_trans g1 h.y u1 u2⟩

/-- Stream.clean (Close): what is still in flight towards the stream, its receive buffer and its send buffer all go back;
    what the other end holds is left alone -/
theorem PI.closeStep {m : Mem} {X Y : StreamM} (fb : Bool) (h : PI N m X Y) :
    PI N (closeStream m X) { inFallback := fb } Y ∧ Geo m (closeStream m X) ∧ ∀ p ∈ heldSt m Y, Untouched m (closeStream m X) p := by
  obtain ⟨h1, g1, u1⟩ := PI.clearStep X.pending m X h rfl
  obtain ⟨a2, _⟩ := lrecycle_acct h1.shape h1.x.recv
  have h2 := (h1.recvStep a2).1
  obtain ⟨a3, _⟩ := lrecycle_acct h2.shape h2.x.send
  have h3 := h2.sendStepR a3 (Or.inl ⟨rfl, rfl⟩)
  -- the stream object is fresh: the fall-back flag does not matter for the invariant
  refine ⟨⟨h3.len, h3.wf, h3.shape, h3.allCap, ⟨h3.x.send, h3.x.recv, h3.x.wbuf, h3.x.pend⟩, h3.y, h3.part⟩,
    (g1.trans a2.geo).trans a3.geo, ?_⟩
  exact peer_trans g1 h.y u1 (peer_trans a2.geo h1.y (h1.frame .recv (h1.lift a2.frame)).2 (h2.frame .send (h2.lift a3.frame)).2)

theorem create_shape (classes : List (Nat × Nat)) (hpos : ∀ c ∈ classes, 0 < c.1) :
    Shape (Mem.create classes) ∧ (∀ i, i < (Mem.create classes).slots.length → 0 < ((Mem.create classes).slot i).cap) ∧
    (Mem.create classes).free.flatten = List.range (Mem.create classes).slots.length :=
  have ⟨h1, h2, h3⟩ := create_facts classes hpos
  ⟨⟨h3, fun i hi => (h1 i hi).2.2.2, (create_wf classes hpos).freeLt⟩, fun i hi => (h1 i hi).2.2.1, h2⟩

theorem PI.init (classes : List (Nat × Nat)) (hpos : ∀ c ∈ classes, 0 < c.1) :
    PI (Mem.create classes).slots.length (Mem.create classes) {} {} := by
  obtain ⟨sh, ac, hf⟩ := create_shape classes hpos
  have ok0 : StOK (Mem.create classes) {} :=
    ⟨fun _ h => by simp at h, fun _ h => by simp at h, Or.inl ⟨rfl, rfl⟩, fun _ h => nomatch h⟩
  refine ⟨rfl, create_wf classes hpos, sh, ac, ok0, ok0, fun j => ?_⟩
  have h0 : heldSt (Mem.create classes) {} = [] := rfl
  rw [h0, count_nil, fc, hf, count_range]; rfl

def PInv (N : Nat) (s : PSys) : Prop := PI N s.m s.a s.b

/-- the pair seen from end `x`: the invariant with the stream of `x` first, and how it is put back after a step that replaces
    that stream, or both -/
theorem PInv.side {s : PSys} (h : PInv N s) (x : Bool) :
    PI N s.m (s.get x) (s.get (!x)) ∧ (∀ m' st, PI N m' st (s.get (!x)) → PInv N (s.put x m' st)) ∧
    ∀ m' st pr, PI N m' st pr → PInv N ((s.put x m' st).put (!x) m' pr) := by
  cases x with
  | false => exact ⟨h, fun _ _ h' => h', fun _ _ _ h' => h'⟩
  | true => exact ⟨PI.symm h, fun _ _ h' => PI.symm h', fun _ _ _ h' => PI.symm h'⟩

/-- a reader call of end `x`.  `a` is its accounting lemma, still waiting for `Shape` and `BufOK`: the invariant supplies them
    here, once for all readers -/
theorem PInv.recv {s : PSys} (h : PInv N s) (x : Bool) {m' : Mem} {r' : LBuf}
    (a : Shape s.m → BufOK s.m (s.get x).recv → AcctR s.m (s.get x).recv m' r') :
    PInv N (s.put x m' { (s.get x) with recv := r' }) :=
  have ⟨hx, put1, _⟩ := h.side x
  put1 _ _ (hx.recvStep (a hx.shape hx.x.recv)).1

/-- a reader call of end `x` that completes is an accounting step on the receive buffer of `x`; the accounting lemmas still
    wait for `Shape` and `BufOK`, which the invariant supplies (`PInv.recv`) -/
theorem pstep_recv {s s' : PSys} : ∀ {op : POp}, pstep s op = some s' →
    match op with
    | .readBytes x _ | .peek x _ | .discard x _ | .readByte x | .readString x _ | .readInto x _ | .release x =>
      ∃ m' r', s' = s.put x m' { (s.get x) with recv := r' } ∧
        (Shape s.m → BufOK s.m (s.get x).recv → AcctR s.m (s.get x).recv m' r')
    | _ => True := by
  intro op e
  cases op <;> try trivial
  case release x => cases e; exact ⟨_, _, rfl, release_acct⟩
  all_goals simp only [pstep] at e; split at e <;> cases e
  · exact ⟨_, _, rfl, fun hs ho => readBytes_acct hs ho ‹_›⟩
  · exact ⟨_, _, rfl, fun hs ho => peek_acct hs ho ‹_›⟩
  · exact ⟨_, _, rfl, fun hs ho => discard_acct hs ho ‹_›⟩
  · exact ⟨_, _, rfl, fun hs ho => readByte_acct hs ho ‹_›⟩
  · exact ⟨_, _, rfl, fun hs ho => readString_acct hs ho ‹_›⟩
  · exact ⟨_, _, rfl, fun hs ho => readInto_acct hs ho ‹_›⟩

/-- **Every operation of the stream pair keeps the slot accounting.** -/
theorem pstep_inv {s s' : PSys} {op : POp} (h : PInv N s) (e : pstep s op = some s') : PInv N s' := by
  cases op with
  | write x d =>
    obtain ⟨hx, put1, _⟩ := h.side x
    obtain ⟨m1, l1, e1, w1, b1, _, _, f1⟩ := writeBytes_spec s.m (s.get x).send d hx.wf hx.x.wbuf
    simp only [pstep, e1, Option.some.injEq] at e
    subst e; exact put1 _ _ (hx.sendStep (writeBytes_acct hx.shape hx.x.send e1) w1 b1 f1)
  | writeByte x b =>
    obtain ⟨hx, put1, _⟩ := h.side x
    obtain ⟨m1, l1, e1, w1, b1, _, _, f1⟩ := writeByte_spec s.m (s.get x).send b hx.wf hx.x.wbuf
    simp only [pstep, e1, Option.some.injEq] at e
    subst e; exact put1 _ _ (hx.sendStep (writeByte_acct hx.shape hx.x.send e1) w1 b1 f1)
  | flush x =>
    obtain ⟨hx, _, put2⟩ := h.side x
    simp only [pstep] at e
    split at e <;> cases e
    exact put2 _ _ _ (hx.flushStep ‹_›)
  | more x =>
    obtain ⟨hx, put1, _⟩ := h.side x
    obtain ⟨X', e1, h1⟩ := hx.moreStep
    simp only [pstep, e1, Option.some.injEq] at e
    subst e; exact put1 _ _ h1
  | readBytes x n | peek x n | discard x n | readByte x | readString x n | readInto x n | release x =>
    obtain ⟨m', r', rfl, a⟩ := pstep_recv e
    exact h.recv x a
  | close x =>
    cases e
    exact (h.side x).2.1 _ _ ((h.side x).1.closeStep _).1

theorem prun_inv : ∀ (ops : List POp) (s s' : PSys), PInv N s → prun s ops = some s' → PInv N s'
  | [], s, s', h, e => by
    simp only [prun, Option.some.injEq] at e
    subst e; exact h
  | op :: r, s, s', h, e => by
    unfold prun at e
    cases hs : pstep s op with
    | none => rw [hs] at e; cases e
    | some s1 =>
      rw [hs] at e
      exact prun_inv r s1 s' (pstep_inv h hs) e

theorem prun_append : ∀ (a b : List POp) (s : PSys), prun s (a ++ b) = (prun s a).bind (fun s1 => prun s1 b)
  | [], _, _ => rfl
  | op :: a, b, s => by
    simp only [cons_append, prun]
    cases pstep s op with
    | none => rfl
    | some s1 => exact prun_append a b s1

end LB

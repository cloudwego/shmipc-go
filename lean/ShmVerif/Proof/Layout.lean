import ShmVerif.Model.Layout
/-!
  The layout computed by createBufferManager for every sane configuration:
  no panic; error or consecutive, in-bounds, pairwise disjoint classes; the mapper re-derives the same geometry.
-/
namespace Layout

theorem u32_of_lt {x : Nat} (h : x < W32) : u32 x = x := Nat.mod_eq_of_lt h

/-- the overflow test of createBufferManager (`Size + 20 < 20`): a uint32 sum not below a summand has not wrapped -/
theorem lt_of_le_u32_add {x k : Nat} (hx : x < W32) (hk : k ≤ u32 (x + k)) : x + k < W32 :=
  Nat.lt_of_not_le fun h => by
    have : u32 (x + k) ≤ x + k - W32 := by unfold u32; rw [Nat.mod_eq_sub_mod h]; exact Nat.mod_le _ _
    omega

/-- uint32 `x - k` without borrow, written `x + 2^32 - k` in the model -/
theorem u32_add_W32_sub {x k : Nat} (hk : k ≤ x) (hx : x < W32) : u32 (x + W32 - k) = x - k := by
  rw [show x + W32 - k = x - k + W32 by omega, u32, Nat.add_mod_right, Nat.mod_eq_of_lt (by omega)]

theorem intToU64_of_nonneg (x : Nat) (h : x < W64) : intToU64 (x : Int) = x := by
  unfold intToU64
  rw [Int.emod_eq_of_lt (Int.natCast_nonneg x) (Int.ofNat_lt.mpr h), Int.toNat_natCast]

theorem countBufferListMemSize_of_lt {num cap : Nat} (h : bufferListHeaderSize + num * (cap + bufferHeaderSize) < W32) :
    countBufferListMemSize num cap = bufferListHeaderSize + num * (cap + bufferHeaderSize) := by
  unfold countBufferListMemSize
  rcases Nat.eq_zero_or_pos num with rfl | hn
  · rw [Nat.zero_mul] at h; rw [Nat.zero_mul, u32_of_lt (x := 0) (by omega), u32_of_lt h, Nat.zero_mul]
  · have := Nat.le_mul_of_pos_left (cap + bufferHeaderSize) hn
    rw [u32_of_lt (x := cap + _) (by omega), u32_of_lt (x := num * _) (by omega), u32_of_lt h]

/-- the offset both loops step to: the end of the class -/
theorem next_of_fits {num cap memLen off : Nat} (hmem : memLen < W32)
    (hfit : off + bufferListHeaderSize + num * (cap + bufferHeaderSize) ≤ memLen) :
    u32 (off + countBufferListMemSize num cap) = off + bufferListHeaderSize + num * (cap + bufferHeaderSize) := by
  rw [countBufferListMemSize_of_lt (by omega), ← Nat.add_assoc, u32_of_lt (Nat.lt_of_le_of_lt hfit hmem)]

theorem createFreeBufferList_of_fits {num cap memLen off : Nat} (hmem : memLen < W32)
    (hfit : off + bufferListHeaderSize + num * (cap + bufferHeaderSize) ≤ memLen) :
    createFreeBufferList num cap memLen off =
      if num = 0 ∨ cap = 0 then .err "zero" else
        .ok { off, num, capPer := cap, regionOff := off + bufferListHeaderSize,
              regionLen := num * (cap + bufferHeaderSize), head := 0, tail := (num - 1) * (cap + bufferHeaderSize) } := by
  unfold createFreeBufferList
  by_cases h0 : num = 0 ∨ cap = 0
  · rw [if_pos h0, if_pos h0]
  · obtain ⟨n, rfl⟩ := Nat.exists_eq_add_one_of_ne_zero (not_or.mp h0).1
    have h36 : bufferListHeaderSize = 36 := rfl
    have h20 : bufferHeaderSize = 20 := rfl
    rw [if_neg h0, if_neg h0, countBufferListMemSize_of_lt (by omega), Nat.add_sub_cancel]
    rw [Nat.succ_mul] at hfit ⊢
    -- every value the code truncates to uint32 is at most memLen
    have ⟨h1, h2, h3, h4⟩ : off + (bufferListHeaderSize + (n * (cap + bufferHeaderSize) + (cap + bufferHeaderSize))) < W32 ∧
        off + bufferListHeaderSize < W32 ∧ cap + bufferHeaderSize < W32 ∧ n * (cap + bufferHeaderSize) < W32 := by omega
    -- the six header words lie in the first 24 of the 36 header bytes
    have hhdr : ([0, 4, 8, 12, 16, 20].any fun k => decide (u32 (off + k) ≥ memLen)) = false := by
      rw [List.any_eq_false]
      intro k hk
      have : k ≤ 20 := (by decide : ∀ k ∈ [0, 4, 8, 12, 16, 20], k ≤ 20) k hk
      rw [u32_of_lt (by omega), decide_eq_true_eq]; omega
    simp only [u32_of_lt, hmem, h1, h2, h3, h4, hhdr, Bool.false_eq_true, if_false]
    rw [if_neg (by omega), if_neg (by omega), if_neg (by omega), if_neg (by omega)]
    congr 2; omega

/-- from the header words of a class that fits the mapper derives that class -/
theorem mappingFreeBufferList_of_fits {memLen : Nat} (hmem : memLen < W32) (g : ListGeom)
    (hoff : g.regionOff = g.off + bufferListHeaderSize) (hlen : g.regionLen = g.num * (g.capPer + bufferHeaderSize))
    (hfit : g.regionOff + g.regionLen ≤ memLen) :
    mappingFreeBufferList memLen g.off g.num g.capPer g.head g.tail = .ok g := by
  rw [hoff, hlen] at hfit
  simp only [mappingFreeBufferList, next_of_fits hmem hfit, u32_of_lt hmem,
    u32_of_lt (Nat.lt_of_le_of_lt (Nat.le_trans (Nat.le_add_right _ _) hfit) hmem)]
  rw [if_neg (by omega), if_neg (by omega), Nat.add_sub_cancel_left, ← hoff, ← hlen]

/-- classes laid out back to back starting at `start`, all inside the mapping -/
def WellLaid (memLen : Nat) : Nat → List ListGeom → Prop
  | _, [] => True
  | start, g :: r =>
    g.off = start ∧ g.regionOff = start + bufferListHeaderSize ∧ g.regionLen = g.num * (g.capPer + bufferHeaderSize) ∧
    0 < g.num ∧ 0 < g.capPer ∧ g.regionOff + g.regionLen ≤ memLen ∧ g.head = 0 ∧
    g.tail = (g.num - 1) * (g.capPer + bufferHeaderSize) ∧
    WellLaid memLen (g.regionOff + g.regionLen) r

def endOf : Nat → List ListGeom → Nat
  | start, [] => start
  | _, g :: r => endOf (g.regionOff + g.regionLen) r

theorem wellLaid_append (memLen start : Nat) (a b : List ListGeom) (ha : WellLaid memLen start a)
    (hb : WellLaid memLen (endOf start a) b) : WellLaid memLen start (a ++ b) := by
  induction a generalizing start with
  | nil => simpa [endOf] using hb
  | cons g r ih =>
    obtain ⟨h1, h2, h3, h4, h5, h6, h7, h8, h9⟩ := ha
    exact ⟨h1, h2, h3, h4, h5, h6, h7, h8, ih _ h9 hb⟩

theorem endOf_append (start : Nat) (a b : List ListGeom) : endOf start (a ++ b) = endOf (endOf start a) b := by
  induction a generalizing start with
  | nil => rfl
  | cons g r ih => simp [endOf, ih]

theorem WellLaid.le_endOf {memLen : Nat} : ∀ {lists : List ListGeom} {start : Nat},
    WellLaid memLen start lists → start ≤ endOf start lists
  | [], _, _ => Nat.le_refl _
  | _ :: _, _, ⟨_, h2, _, _, _, _, _, _, hr⟩ =>
    Nat.le_trans (h2 ▸ Nat.le_add_right _ _) (Nat.le_trans (Nat.le_add_right _ _) hr.le_endOf)

theorem WellLaid.endOf_le {memLen : Nat} : ∀ {lists : List ListGeom} {start : Nat},
    WellLaid memLen start lists → start ≤ memLen → endOf start lists ≤ memLen
  | [], _, _, h => h
  | _ :: _, _, ⟨_, _, _, _, _, h6, _, _, hr⟩, _ => hr.endOf_le h6

theorem WellLaid.of_mem {memLen : Nat} : ∀ {lists : List ListGeom} {start : Nat}, WellLaid memLen start lists →
    ∀ {g}, g ∈ lists → start ≤ g.off ∧ g.off + bufferListHeaderSize = g.regionOff ∧
      g.regionLen = g.num * (g.capPer + bufferHeaderSize) ∧ g.regionOff + g.regionLen ≤ endOf start lists
  | a :: r, _, ⟨h1, h2, h3, _, _, _, _, _, hr⟩, g, hg => by
    rcases List.mem_cons.mp hg with rfl | hg
    · exact ⟨Nat.le_of_eq h1.symm, h1 ▸ h2.symm, h3, hr.le_endOf⟩
    · have ⟨m1, m⟩ := hr.of_mem hg
      exact ⟨by omega, m⟩

theorem WellLaid.pairwise {memLen : Nat} : ∀ {lists : List ListGeom} {start : Nat}, WellLaid memLen start lists →
    lists.Pairwise fun a b => a.regionOff + a.regionLen ≤ b.off
  | [], _, _ => .nil
  | _ :: _, _, ⟨_, _, _, _, _, _, _, _, hr⟩ => .cons (fun _ hb => (hr.of_mem hb).1) hr.pairwise

/-- classes laid out by `WellLaid` occupy pairwise disjoint byte ranges, in order -/
theorem wellLaid_disjoint (memLen : Nat) : ∀ (lists : List ListGeom) (start : Nat), WellLaid memLen start lists →
    ∀ g ∈ lists, start ≤ g.off ∧ g.regionOff + g.regionLen ≤ endOf start lists ∧
      ∀ (i j : Nat) (hi : i < lists.length) (hj : j < lists.length), i < j →
        lists[i].regionOff + lists[i].regionLen ≤ lists[j].off :=
  fun _ _ hw _ hg => ⟨(hw.of_mem hg).1, (hw.of_mem hg).2.2.2, List.pairwise_iff_getElem.mp hw.pairwise⟩

/-- sane configuration (what VerifyConfig accepts, plus the two arithmetic guards discussed in DESIGN §5 C03) -/
structure Sane (memLen : Nat) (pairs : List Pair) : Prop where
  memPos : 0 < memLen
  memLt : memLen < W32
  sizes : ∀ p ∈ pairs, p.size < W32        -- Size is a uint32
  headers : bufferListHeaderSize * pairs.length + bufferManagerHeaderSize ≤ memLen
  nonempty : pairs ≠ []

/-- a class's share of the region and the share of the classes after it stay within what was left -/
theorem share_add_rest_le (R : Nat) {sum pct : Nat} (h : sum + pct ≤ 100) :
    R * pct / 100 + R * (100 - (sum + pct)) / 100 ≤ R * (100 - sum) / 100 := by
  have : R * (100 - sum) = R * pct + R * (100 - (sum + pct)) := by rw [← Nat.mul_add]; congr 1; omega
  omega

/-- Invariant of the loop: what is left of the mapping holds the remaining list headers and the remaining percents'
    share of the region. Then every class fits, so nothing wraps and no guard of createFreeBufferList panics. -/
theorem createLoop_sane {memLen R : Nat} (hmem : memLen < W32) (hR : R ≤ memLen) :
    ∀ (pairs : List Pair) (hadUsed sum : Nat) (acc : List ListGeom),
      (∀ p ∈ pairs, p.size < W32 ∧ p.percent ≤ 100) → sum ≤ 100 →
      hadUsed + bufferListHeaderSize * pairs.length + R * (100 - sum) / 100 ≤ memLen →
      (∃ new, createLoop memLen R pairs hadUsed sum acc = .ok (acc ++ new, endOf hadUsed new) ∧
          WellLaid memLen hadUsed new ∧ new.map (·.capPer) = pairs.map (·.size)) ∨
      ∃ w, createLoop memLen R pairs hadUsed sum acc = .err w
  | [], _, _, acc, _, _, _ => .inl ⟨[], by rw [createLoop, List.append_nil, endOf], trivial, rfl⟩
  | p :: rest, hadUsed, sum, acc, hp, hsum, hfit => by
    obtain ⟨hsz, hpc⟩ := hp p List.mem_cons_self
    have hW : W32 = 4294967296 := rfl
    have hW64 : W64 = 18446744073709551616 := rfl
    simp only [createLoop]
    rw [u32_of_lt (x := sum + p.percent) (by omega)]
    by_cases hgt : sum + p.percent > 100
    · exact .inr ⟨_, if_pos hgt⟩
    by_cases hov : u32 (p.size + bufferHeaderSize) < bufferHeaderSize
    · exact .inr ⟨_, by rw [if_neg hgt, if_pos hov]⟩
    have hq : R * p.percent / 100 ≤ R :=
      Nat.div_le_of_le_mul (Nat.mul_comm 100 R ▸ Nat.mul_le_mul_left R hpc)
    rw [if_neg hgt, if_neg hov, u32_of_lt (lt_of_le_u32_add hsz (Nat.le_of_not_lt hov)),
      if_neg (Nat.ne_of_gt (Nat.add_pos_right _ (by decide))),
      Nat.mod_eq_of_lt (a := R * p.percent) (by have := Nat.mul_le_mul_left R hpc; omega),
      u32_of_lt (x := R * p.percent / 100) (by omega)]
    -- the slots fit into the class's share, the share into what is left of the region
    have hnum := Nat.div_mul_le_self (R * p.percent / 100) (p.size + bufferHeaderSize)
    have hshare := share_add_rest_le R (Nat.le_of_not_lt hgt)
    rw [List.length_cons, Nat.mul_succ] at hfit
    generalize R * p.percent / 100 / (p.size + bufferHeaderSize) = num at hnum ⊢
    have hcls : hadUsed + bufferListHeaderSize + num * (p.size + bufferHeaderSize) ≤ memLen := by omega
    rw [createFreeBufferList_of_fits hmem hcls, next_of_fits hmem hcls]
    by_cases hz : num = 0 ∨ p.size = 0
    · exact .inr ⟨_, by rw [if_pos hz]⟩
    rw [if_neg hz]
    simp only []
    rcases createLoop_sane hmem hR rest (hadUsed + bufferListHeaderSize + num * (p.size + bufferHeaderSize))
        (sum + p.percent) (acc ++ [_]) (fun q hq => hp q (List.mem_cons_of_mem _ hq)) (Nat.le_of_not_lt hgt) (by omega)
      with ⟨new, h, hw, hm⟩ | ⟨w, h⟩
    · refine .inl ⟨_ :: new, by rw [h, List.append_assoc, List.singleton_append]; rfl, ?_,
        by rw [List.map_cons, List.map_cons, hm]⟩
      exact ⟨rfl, rfl, rfl, Nat.pos_of_ne_zero (not_or.mp hz).1, Nat.pos_of_ne_zero (not_or.mp hz).2, hcls, rfl, rfl, hw⟩
    · exact .inr ⟨w, h⟩

/-- createBufferManager on a sane configuration: never panics; on success the classes are laid out back to back
    behind the 8-byte manager header, inside the mapping -/
theorem createBufferManager_sane (pairs : List Pair) (memLen : Nat) (hs : Sane memLen pairs)
    (hpct : ∀ p ∈ pairs, p.percent ≤ 100) :
    match createBufferManager pairs memLen with
    | .ok m => WellLaid memLen bufferManagerHeaderSize m.lists ∧ m.lists.map (·.capPer) = pairs.map (·.size) ∧
               m.usedLen + bufferManagerHeaderSize = endOf bufferManagerHeaderSize m.lists ∧
               endOf bufferManagerHeaderSize m.lists ≤ memLen ∧ m.listNumField = pairs.length % 65536
    | .err _ => True
    | .panic _ => False := by
  have hh := hs.headers
  have hlt := hs.memLt
  have h4 : ¬ memLen ≤ bmCapOffset := fun h =>
    absurd (Nat.le_trans (Nat.le_add_left _ _) hh) (Nat.not_le.mpr (Nat.lt_of_le_of_lt h (by decide)))
  have hR : ((memLen : Int) - 0 - ((bufferListHeaderSize * pairs.length : Nat) : Int) - ((bufferManagerHeaderSize : Nat) : Int))
      = ((memLen - bufferListHeaderSize * pairs.length - bufferManagerHeaderSize : Nat) : Int) := by omega
  simp only [createBufferManager, if_neg (Nat.not_le.mpr hs.memPos), hR, intToU64_of_nonneg _
    (Nat.lt_trans (Nat.lt_of_le_of_lt (Nat.le_trans (Nat.sub_le _ _) (Nat.sub_le _ _)) hlt) (by decide : W32 < W64))]
  generalize hRd : memLen - bufferListHeaderSize * pairs.length - bufferManagerHeaderSize = R
  rcases createLoop_sane (R := R) hlt (by omega) pairs bufferManagerHeaderSize 0 []
      (fun p hp => ⟨hs.sizes p hp, hpct p hp⟩) (Nat.zero_le _)
      (by rw [Nat.sub_zero, Nat.mul_div_cancel _ (by decide)]; omega) with ⟨new, h, hw, hm⟩ | ⟨w, h⟩
  · have hend := hw.endOf_le (Nat.le_trans (Nat.le_add_left _ _) hh)
    simp only [h, List.nil_append, if_neg hs.nonempty, if_neg h4,
      u32_add_W32_sub hw.le_endOf (Nat.lt_of_le_of_lt hend hlt)]
    exact ⟨hw, hm, Nat.sub_add_cancel hw.le_endOf, hend, trivial⟩
  · simp only [h]

/-- the mapper, walking the headers the creator wrote, re-derives exactly the creator's geometry -/
theorem mappingLoop_roundtrip {memLen : Nat} (hmem : memLen < W32) :
    ∀ (lists : List ListGeom) (start : Nat) (acc : List ListGeom),
      WellLaid memLen start lists → mappingLoop memLen lists start acc = .ok (acc ++ lists)
  | [], _, _, _ => by rw [mappingLoop, List.append_nil]
  | g :: r, _, acc, ⟨rfl, h2, h3, _, _, h6, _, _, hr⟩ => by
    have hnext := next_of_fits hmem (h2 ▸ h3 ▸ h6)
    rw [← h2, ← h3] at hnext
    simp only [mappingLoop, ne_eq, not_true_eq_false, if_false, mappingFreeBufferList_of_fits hmem g h2 h3 h6, hnext]
    rw [mappingLoop_roundtrip hmem r _ _ hr, List.append_assoc, List.singleton_append]

theorem mappingBufferManager_roundtrip (pairs : List Pair) (memLen : Nat) (hs : Sane memLen pairs)
    (hpct : ∀ p ∈ pairs, p.percent ≤ 100) (hk : pairs.length < 65536) (m : Mgr)
    (hc : createBufferManager pairs memLen = .ok m) :
    mappingBufferManager m memLen = .ok m.lists := by
  have h := createBufferManager_sane pairs memLen hs hpct
  rw [hc] at h
  obtain ⟨h1, h2, h3, h4, h5⟩ := h
  have hlen : m.lists.length = pairs.length := by simpa using congrArg List.length h2
  have hh := hs.headers
  have : 0 < pairs.length := List.length_pos_iff.mpr hs.nonempty
  have hb : bmCapOffset < bufferManagerHeaderSize := by decide
  unfold mappingBufferManager
  rw [if_neg (by omega), if_neg (by omega), h5, Nat.mod_eq_of_lt hk, ← hlen, List.take_length]
  exact mappingLoop_roundtrip hs.memLt m.lists _ [] h1

/-- slots of one class: inside the region, at slot boundaries, pairwise disjoint -/
theorem slots_disjoint (g : ListGeom) (hlen : g.regionLen = g.num * (g.capPer + bufferHeaderSize)) (i j : Nat)
    (hij : i < j) (hj : j < g.num) :
    slotEnd g i ≤ slotStart g j ∧ g.regionOff ≤ slotStart g i ∧ slotEnd g j ≤ g.regionOff + g.regionLen := by
  unfold slotEnd slotStart
  have h1 : (i + 1) * (g.capPer + bufferHeaderSize) ≤ j * (g.capPer + bufferHeaderSize) := Nat.mul_le_mul_right _ (by omega)
  have h2 : (j + 1) * (g.capPer + bufferHeaderSize) ≤ g.num * (g.capPer + bufferHeaderSize) := Nat.mul_le_mul_right _ (by omega)
  rw [Nat.add_mul, Nat.one_mul] at h1 h2
  rw [hlen]
  refine ⟨by omega, by omega, by omega⟩

/-- the two ends are cross-wired and the two queues do not overlap, for every capacity whose ring fits in uint32 -/
theorem queue_crosswired (cap : Nat) (hcap : queueHeaderLength + cap * queueElementLen < W32) :
    let c := createQueueManager cap
    let m := mappingQueueManager (countQueueMemSize cap * queueCount) cap cap
    c.send = m.recv ∧ c.recv = m.send ∧
    c.send.ringEnd ≤ c.recv.base ∧ c.recv.ringEnd ≤ countQueueMemSize cap * queueCount ∧
    c.send.ringEnd - c.send.ringOff = cap * queueElementLen := by
  intro c m
  have h1 : u32 (cap * queueElementLen) = cap * queueElementLen := u32_of_lt (by unfold queueHeaderLength at hcap; omega)
  have h2 : u32 (queueHeaderLength + cap * queueElementLen) = queueHeaderLength + cap * queueElementLen := u32_of_lt hcap
  simp only [c, m, createQueueManager, mappingQueueManager, queueFromBytes, countQueueMemSize, queueCount, h1, h2]
  refine ⟨trivial, trivial, ?_, ?_, ?_⟩ <;> (unfold queueHeaderLength queueElementLen at *; omega)

end Layout

import ShmVerif.Proof.FreeListConc
/-!
  Sequential-atomic histories of the access-granular free-list model: each pop/push runs to completion before the
  next operation (of any thread) starts.  Unbounded: any number of slots, threads, operations.

  `Rep s free`: the abstract free list `free` is exactly the chain from `head` to `tail`; every slot is either in
  `free` or owned by exactly one thread.  A sequential history is an ABA-free interleaving observed between
  operations, so `Rep` after every history (`seqRun_rep`) comes from the invariant of `FreeListConc` through
  `rep_of_cq`.  What this file adds is what one operation run alone does to the shared words: the `opRun_*`
  equations, which the proofs use, and the same runs counted in accesses per `iterTh` (`pop_ok`, `pop_fail`, `push_ok`).
-/
namespace FreeListC

/-- slots a thread owns at an operation boundary (a thread about to push has already taken `o` out of `held`) -/
def owned (th : Th) : List Nat := th.held ++ (if th.pc = .uReset then [th.o] else [])

/-- `complete` follows from `nodup`, `bound` and `total` (pigeonhole); it is a field because the statements about
    sequential histories read it off -/
structure Rep (s : State) (free : List Nat) : Prop where
  chain : Chain s.slots free
  head : free.head? = some s.head
  tail : free.getLast? = some s.tail
  size : s.size = free.length
  nodup : (free ++ s.ths.flatMap owned).Nodup
  bound : ∀ i ∈ free ++ s.ths.flatMap owned, i < s.slots.length
  total : (free ++ s.ths.flatMap owned).length = s.slots.length
  complete : ∀ i, i < s.slots.length → i ∈ free ++ s.ths.flatMap owned
  boundary : ∀ th ∈ s.ths, AtBoundary th

def iterTh : Nat → State → Th → State × Th
  | 0, s, th => (s, th)
  | k + 1, s, th => let r := stepTh s th; iterTh k r.1 r.2.1

/-- successful pop, run alone: 8 accesses -/
theorem pop_ok (s : State) (th : Th) (a b : Nat) (hpc : th.pc = .pLdHead) (hh : s.head = a)
    (hsz : 2 ≤ s.size) (hn : (gs s.slots a).hasNext = true) (hb : (gs s.slots a).next = b) :
    iterTh 8 s th =
      ({ s with head := b, size := s.size - 1, counter := s.counter + 1, hver := s.hver + 1,
                slots := (s.slots.modify a (fun x => { x with hasNext := false, inUsed := false })).modify a
                            (fun x => { x with inUsed := true }) },
       finishOp { th with oldHead := a, lver := s.hver, retry := 0, nxt := b, pc := .pCnt, held := th.held ++ [a] } (.got a)) := by
  have hsz' : ¬ (s.size - 1 ≤ 0) := by omega
  simp [iterTh, stepTh, hpc, hh, hsz', getSlot_eq_gs, hn, hb, clearFlag, setInUsed]

/-- failing pop (free list down to its last slot), run alone: the shared words are restored -/
theorem pop_fail (s : State) (th : Th) (hpc : th.pc = .pLdHead) (hsz : s.size ≤ 1) :
    iterTh 3 s th = (s, finishOp { th with oldHead := s.head, lver := s.hver, pc := .pIncFail } .nomore) := by
  have hsz' : s.size - 1 ≤ 0 := by omega
  simp [iterTh, stepTh, hpc, hsz']

/-- push, run alone: 7 accesses -/
theorem push_ok (s : State) (th : Th) (hpc : th.pc = .uReset) :
    iterTh 7 s th =
      ({ s with tail := th.o, size := s.size + 1, counter := s.counter - 1,
                slots := (((s.slots.modify th.o (fun x => { x with hasNext := false, inUsed := false })).modify s.tail
                            (fun x => { x with next := th.o })).modify s.tail (fun x => { x with hasNext := true })) },
       finishOp { th with ot := s.tail, pc := .uDecCnt } (.pushed th.o)) := by
  simp [iterTh, stepTh, hpc, clearFlag, setNext, setHasNext]

theorem startNextAux_res_len (ops : List Op) (t : Th) : t.res.length ≤ (startNextAux t ops).res.length := by
  induction ops generalizing t with
  | nil => simp [startNextAux]
  | cons op r ih =>
    cases op with
    | pop => simp [startNextAux]
    | push k =>
      simp only [startNextAux]
      split
      · have := ih { t with res := t.res ++ [.skipped] }
        simp at this; omega
      · simp

theorem finishOp_res_len (t : Th) (r : Res) : t.res.length < (finishOp t r).res.length := by
  have := startNextAux_res_len t.prog { t with res := t.res ++ [r] }
  simp only [finishOp, startNext]
  simp at this; omega

/-- The fuel 16 only has to cover the longest operation run alone (this one: 8 accesses).  `opRun` stops after the first
    step that makes `res` longer; `hfin` is what lets `simp` see that the last step does. -/
theorem opRun_pop_ok (s : State) (t : Nat) (th : Th) (a b : Nat) (hth : s.ths[t]? = some th)
    (hpc : th.pc = .pLdHead) (hh : s.head = a)
    (hsz : 2 ≤ s.size) (hn : (gs s.slots a).hasNext = true) (hb : (gs s.slots a).next = b) :
    opRun 16 s t =
      { s with head := b, size := s.size - 1, counter := s.counter + 1, hver := s.hver + 1,
               slots := (s.slots.modify a (fun x => { x with hasNext := false, inUsed := false })).modify a
                            (fun x => { x with inUsed := true }),
               ths := s.ths.set t (finishOp { th with oldHead := a, lver := s.hver, retry := 0, nxt := b, pc := .pCnt, held := th.held ++ [a] } (.got a)) } := by
  have hsz' : ¬ (s.size - 1 ≤ 0) := by omega
  obtain ⟨ht, hget⟩ := List.getElem?_eq_some_iff.mp hth
  have hfin := finishOp_res_len { th with oldHead := a, lver := s.hver, retry := 0, nxt := b, pc := .pCnt, held := th.held ++ [a] } (.got a)
  simp only at hfin
  subst hget
  simp [opRun, step, stepTh, hpc, hh, hsz', getSlot_eq_gs, hn, hb, clearFlag, setInUsed, ht, hfin]

theorem opRun_pop_fail (s : State) (t : Nat) (th : Th) (hth : s.ths[t]? = some th)
    (hpc : th.pc = .pLdHead) (hsz : s.size ≤ 1) :
    opRun 16 s t =
      { s with ths := s.ths.set t (finishOp { th with oldHead := s.head, lver := s.hver, pc := .pIncFail } .nomore) } := by
  have hsz' : s.size - 1 ≤ 0 := by omega
  obtain ⟨ht, hget⟩ := List.getElem?_eq_some_iff.mp hth
  have hfin := finishOp_res_len { th with oldHead := s.head, lver := s.hver, pc := .pIncFail } .nomore
  simp only at hfin
  subst hget
  simp [opRun, step, stepTh, hpc, hsz', ht, hfin]

theorem opRun_push (s : State) (t : Nat) (th : Th) (hth : s.ths[t]? = some th) (hpc : th.pc = .uReset) :
    opRun 16 s t =
      { s with tail := th.o, size := s.size + 1, counter := s.counter - 1,
               slots := (((s.slots.modify th.o (fun x => { x with hasNext := false, inUsed := false })).modify s.tail
                            (fun x => { x with next := th.o })).modify s.tail (fun x => { x with hasNext := true })),
               ths := s.ths.set t (finishOp { th with ot := s.tail, pc := .uDecCnt } (.pushed th.o)) } := by
  obtain ⟨ht, hget⟩ := List.getElem?_eq_some_iff.mp hth
  have hfin := finishOp_res_len { th with ot := s.tail, pc := .uDecCnt } (.pushed th.o)
  simp only at hfin
  subst hget
  simp [opRun, step, stepTh, hpc, ht, hfin, clearFlag, setNext, setHasNext]

theorem opRun_idle (s : State) (t : Nat) (th : Th) (hth : s.ths[t]? = some th) (hpc : th.pc = .idle) :
    opRun 16 s t = s := by
  simp [opRun, hth, hpc]

theorem opRun_none (s : State) (t : Nat) (hth : s.ths[t]? = none) : opRun 16 s t = s := by
  simp [opRun, hth]

theorem boundary_set (l : List Th) (t : Nat) (x : Th) (hl : ∀ th ∈ l, AtBoundary th) (hx : AtBoundary x) :
    ∀ th ∈ l.set t x, AtBoundary th :=
  fun _ hth => (List.mem_or_eq_of_mem_set hth).elim (hl _) (· ▸ hx)

/-- `owned` is `ownedC` read at an operation boundary, where the only slot in transit is the `o` of a thread about to
    push; the statements about sequential histories speak of `owned`, the invariant of `ownedC` -/
theorem ownedC_of_boundary {th : Th} (h : AtBoundary th) : ownedC th = owned th := by
  rcases h with h | h | h <;> simp [ownedC, owned, transit, h]

theorem owned_finishOp (t : Th) (r : Res) : (owned (finishOp t r)).Perm t.held := by
  obtain ⟨b, _, o⟩ := finishOp_spec t r
  rw [← ownedC_of_boundary b]
  exact List.perm_iff_count.mpr o

/-- at an operation boundary of every thread the ghost queue is the free chain: the abstract free list of `Rep` -/
theorem rep_of_cq {n : Nat} {s : State} {Q : List Nat} (I : CInv n s Q) (J : QInv s Q)
    (hb : ∀ th ∈ s.ths, AtBoundary th) : Rep s Q := by
  have hown : s.ths.flatMap ownedC = s.ths.flatMap owned := by
    rw [List.flatMap_def, List.flatMap_def, List.map_congr_left fun th hm => ownedC_of_boundary (hb th hm)]
  have P := hown ▸ I.partition
  have hmem : ∀ i, i ∈ Q ++ s.ths.flatMap owned ↔ i < n := fun i => by rw [P.mem_iff, List.mem_range]
  exact ⟨(cq_boundary I J hb).1, I.head, I.last, (cq_boundary I J hb).2, P.nodup_iff.mpr List.nodup_range,
    fun i hi => I.len ▸ (hmem i).mp hi, by rw [P.length_eq, List.length_range, I.len],
    fun i hi => (hmem i).mpr (I.len ▸ hi), hb⟩

theorem opRun_eq_run : ∀ (f : Nat) (s : State) (t : Nat), ∃ k, opRun f s t = run s (List.replicate k t)
  | 0, s, t => ⟨0, rfl⟩
  | f + 1, s, t => by
    unfold opRun
    split
    · exact ⟨0, rfl⟩
    · split
      · exact ⟨0, rfl⟩
      · dsimp only
        split
        · exact ⟨1, rfl⟩
        · split
          · exact ⟨1, rfl⟩
          · obtain ⟨k, hk⟩ := opRun_eq_run f (step s t).1 t
            exact ⟨k + 1, hk⟩

/-- invariant of sequential-atomic histories: an ABA-free interleaving observed when every thread is between operations -/
def SeqInv (n : Nat) (s : State) : Prop :=
  s.aba = false ∧ (∀ th ∈ s.ths, AtBoundary th) ∧ ∃ Q, CInv n s Q ∧ QInv s Q

theorem opRun_seqInv {n : Nat} {s : State} (t : Nat) (h : SeqInv n s) : SeqInv n (opRun 16 s t) := by
  obtain ⟨ha, hb, Q, I, J⟩ := h
  -- whatever `opRun` does, it is a run of `t`; if it ends ABA-free it keeps the invariants
  have key : ∀ {s'}, opRun 16 s t = s' → s'.aba = false → (∀ th ∈ s'.ths, AtBoundary th) → SeqInv n (opRun 16 s t) := by
    rintro _ rfl ha' hb'
    obtain ⟨k, hk⟩ := opRun_eq_run 16 s t
    rw [hk] at ha' ⊢
    exact ⟨ha', hk ▸ hb', run_cq n _ s Q I J ha'⟩
  have R := rep_of_cq I J hb
  cases hth : s.ths[t]? with
  | none => exact key (opRun_none s t hth) ha hb
  | some th =>
    rcases hb th (List.mem_of_getElem? hth) with hpc | hpc | hpc
    · exact key (opRun_idle s t th hth hpc) ha hb
    · by_cases hsz : s.size ≤ 1
      · exact key (opRun_pop_fail s t th hth hpc hsz) ha (boundary_set _ _ _ hb (boundary_finishOp _ _))
      · match Q, R with
        | [], R => exact absurd R.chain (by simp [Chain])
        | [a], R => have := R.size; simp at this; omega
        | a :: b :: r, R =>
          have hh : s.head = a := by simpa using R.head.symm
          exact key (opRun_pop_ok s t th a b hth hpc hh (by omega) R.chain.1 R.chain.2.1) ha (boundary_set _ _ _ hb (boundary_finishOp _ _))
    · exact key (opRun_push s t th hth hpc) ha (boundary_set _ _ _ hb (boundary_finishOp _ _))

theorem seqRun_seqInv {n : Nat} (ts : List Nat) : ∀ {s : State}, SeqInv n s → SeqInv n (seqRun s ts) :=
  fun h => List.foldlRecOn ts _ h fun _ hb t _ => opRun_seqInv t hb

theorem seqInv_init (n : Nat) (hn : 0 < n) (progs : List (List Op)) : SeqInv n (prime (init n progs)) :=
  ⟨rfl, fun _ hm => (boundary_init hm).1, _, cinv_init n hn progs, qinv_init n hn progs⟩

theorem seqRun_rep (n : Nat) (hn : 0 < n) (progs : List (List Op)) (ts : List Nat) :
    ∃ free, Rep (seqRun (prime (init n progs)) ts) free ∧ (seqRun (prime (init n progs)) ts).slots.length = n := by
  obtain ⟨_, hb, Q, I, J⟩ := seqRun_seqInv ts (seqInv_init n hn progs)
  exact ⟨Q, rep_of_cq I J hb, I.len⟩

end FreeListC

import ShmVerif.Proof.LBMem
/-!
  Slot accounting of the linked buffer ("no slot is lost, none is invented").

  `heldL l` = the shared-memory slots of the slices a buffer lists or has parked.  For every operation of one buffer -
  writer, reader, release, recycle, `done` - the slots that are free afterwards together with the slots held afterwards are
  exactly (as multisets) those before; a slice that arrives by transport adds its slot to the held ones.  (What is in
  flight between two buffers is accounted in `Proof/Chain` and `Proof/SlotSys`.)  Nothing here depends on the functional
  invariants of the writer / reader halves: the accounting holds from ANY state whose slices point at real slots
  (`SlicesOK`) of a memory with the shape createBufferManager gives it (`Shape`).
-/
namespace LB
open List

/-- the shape createBufferManager gives the memory: what `recycle` needs to find the class of a slice again (`Mem.WF` of
    `Proof/LBWrite`, what `pop` and the writer need, is independent of it) -/
structure Shape (m : Mem) : Prop where
  flen : m.free.length = m.caps.length
  cap : ∀ i, i < m.slots.length → (m.slot i).cap ∈ m.caps
  freeLt : ∀ i ∈ m.free.flatten, i < m.slots.length

/-- a slice that points into the memory -/
def SliceOK (m : Mem) (s : BS) : Prop := ∀ i, s.slot = some i → i < m.slots.length ∧ s.cap = (m.slot i).cap
def SlicesOK (m : Mem) (sl : List BS) : Prop := ∀ s ∈ sl, SliceOK m s

theorem SliceOK.geo {m m' : Mem} {s : BS} (h : SliceOK m s) (g : Geo m m') : SliceOK m' s := by
  intro i hi
  obtain ⟨a, b⟩ := h i hi
  exact ⟨by rw [g.len]; exact a, by rw [g.cap]; exact b⟩
theorem SlicesOK.geo {m m' : Mem} {sl : List BS} (h : SlicesOK m sl) (g : Geo m m') : SlicesOK m' sl :=
  fun s hs => (h s hs).geo g

def heldL (l : LBuf) : List Nat := heldS l.sl ++ heldS l.pinned

/-- free slots, counted -/
def fc (m : Mem) (j : Nat) : Nat := m.free.flatten.count j

theorem fc_zero {m : Mem} {p : Nat} : fc m p = 0 ↔ p ∉ m.free.flatten := by
  unfold fc; exact count_eq_zero

theorem shape_geo_free {m m' : Mem} (h : Shape m) (g : Geo m m') (hf : ∀ i ∈ m'.free.flatten, i < m.slots.length) : Shape m' :=
  ⟨by rw [g.flen, g.caps]; exact h.flen, fun i hi => by rw [g.cap, g.caps]; exact h.cap i (by rw [← g.len]; exact hi),
   fun i hi => by rw [g.len]; exact hf i hi⟩

/-- bufferList.pop: the popped slot leaves the free lists, nothing else moves -/
theorem pop_acct {m : Mem} {c : Nat} {m' : Mem} {b : BS} (hs : Shape m) (h : m.pop c = some (m', b)) :
    Geo m m' ∧ Shape m' ∧ SliceOK m' b ∧ (∀ j, fc m' j + (heldS [b]).count j = fc m j) ∧
      ∀ p, p ∉ m.free.flatten → (m'.slot p).hdr = (m.slot p).hdr := by
  obtain ⟨i, rfl, P⟩ := pop_popped h
  have hi : i ∈ m.free.flatten := P.perm.mem_iff.mpr mem_cons_self
  refine ⟨P.geo, shape_geo_free hs P.geo (fun j hj => hs.freeLt j (P.perm.mem_iff.mpr (mem_cons_of_mem _ hj))), ?_, fun j => ?_,
    fun p hp => P.hdr p (fun e => hp (e ▸ hi))⟩
  · intro j hj; cases hj; exact ⟨P.geo.len ▸ hs.freeLt i hi, rfl⟩
  · have := P.perm.count_eq j
    simp only [fc, heldS, reSlice, filterMap_cons, filterMap_nil, count_cons, count_nil] at this ⊢
    omega

/-- with createBufferManager's shape the class of a slice is found: its slot does join the free lists, with a clean header -/
theorem recycle_perm (m : Mem) (s : BS) (hs : Shape m) (ho : SliceOK m s) :
    (m.recycle s).free.flatten ~ heldS [s] ++ m.free.flatten ∧
      ∀ i ∈ heldS [s], ((m.recycle s).slot i).hdr.size = 0 ∧ ((m.recycle s).slot i).hdr.start = 0 := by
  rcases recycle_eq m s with ⟨e, h | h⟩ | ⟨i, c, hsl, hc, e⟩
  · rw [e]; simp [heldS, h]
  · cases hsl : s.slot with
    | none => rw [e]; simp [heldS, hsl]
    | some i => obtain ⟨hi, hcap⟩ := ho i hsl; exact absurd (hcap ▸ hs.cap i hi) h
  · have hget : m.free[c]? = some (m.free.getD c []) := by
      rw [getD_eq_getElem?_getD, getElem?_eq_getElem (hs.flen ▸ hc)]; rfl
    rw [e, heldS_singleton hsl]
    refine ⟨perm_flatten_set_snoc i hget, fun k hk => ?_⟩
    rw [mem_singleton.mp hk]
    have := slot_setSlot_self m (fun x => { x with hdr := { x.hdr with size := 0, start := 0, hasNext := false, inUsed := false } }) (ho i hsl).1
    exact ⟨congrArg (·.hdr.size) this, congrArg (·.hdr.start) this⟩

/-- bufferManager.recycleBuffer: the slot of a shared-memory slice joins a free list, nothing else moves -/
theorem recycle_acct (m : Mem) (s : BS) (hs : Shape m) (ho : SliceOK m s) :
    Geo m (m.recycle s) ∧ Shape (m.recycle s) ∧ (∀ j, fc (m.recycle s) j = fc m j + (heldS [s]).count j) ∧
      (∀ p, p ∉ heldS [s] → ((m.recycle s).slot p).hdr = (m.slot p).hdr) ∧
      ((∀ i ∈ m.free.flatten, (m.slot i).hdr.size = 0 ∧ (m.slot i).hdr.start = 0) →
        ∀ i ∈ (m.recycle s).free.flatten, ((m.recycle s).slot i).hdr.size = 0 ∧ ((m.recycle s).slot i).hdr.start = 0) := by
  obtain ⟨g, _, hh⟩ := recycle_frame m s
  obtain ⟨p, hc⟩ := recycle_perm m s hs ho
  refine ⟨g, shape_geo_free hs g (fun j hj => ?_), fun j => by simp only [fc, p.count_eq j, count_append]; omega, hh, fun h i hi => ?_⟩
  · rcases mem_append.mp (p.mem_iff.mp hj) with h | h
    · cases hsl : s.slot with
      | none => simp [heldS, hsl] at h
      | some i => rw [heldS_singleton hsl, mem_singleton] at h; exact h ▸ (ho i hsl).1
    · exact hs.freeLt j h
  · by_cases hi' : i ∈ heldS [s]
    · exact hc i hi'
    · rw [hh i hi']; exact h i ((mem_append.mp (p.mem_iff.mp hi)).resolve_left hi')

/-- what a batch allocation guarantees: the new slices' slots came out of the free lists -/
structure Got (m : Mem) (acc : List BS) (m' : Mem) (acc' : List BS) : Prop where
  geo : Geo m m'
  shape : Shape m'
  ext : ∃ new, acc' = acc ++ new ∧ SlicesOK m' new ∧ ∀ j, fc m' j + (heldS new).count j = fc m j
  hdr : ∀ p, p ∉ m.free.flatten → (m'.slot p).hdr = (m.slot p).hdr

theorem Got.refl (m : Mem) (acc : List BS) (hs : Shape m) : Got m acc m acc :=
  ⟨Geo.refl m, hs, ⟨[], (by simp), (fun _ h => nomatch h), (fun j => by simp)⟩, fun _ _ => rfl⟩

theorem Got.trans {m m1 m2 : Mem} {a a1 a2 : List BS} (x : Got m a m1 a1) (y : Got m1 a1 m2 a2) : Got m a m2 a2 := by
  obtain ⟨n1, e1, o1, c1⟩ := x.ext
  obtain ⟨n2, e2, o2, c2⟩ := y.ext
  refine ⟨x.geo.trans y.geo, y.shape, ⟨n1 ++ n2, by rw [e2, e1, append_assoc], ?_, fun j => ?_⟩, fun p hp => ?_⟩
  rotate_left 2
  · have : p ∉ m1.free.flatten := by
      rw [← fc_zero] at hp ⊢
      have := c1 p; omega
    rw [y.hdr p this, x.hdr p hp]
  · intro t ht
    rcases mem_append.mp ht with ht | ht
    · exact (o1 t ht).geo y.geo
    · exact o2 t ht
  · rw [heldS_append, count_append]
    have := c1 j; have := c2 j
    omega

theorem got_pop {m0 : Mem} {acc0 : List BS} {m : Mem} {acc : List BS} (h : Got m0 acc0 m acc) {c : Nat} {m' : Mem} {b : BS}
    (hp : m.pop c = some (m', b)) : Got m0 acc0 m' (acc ++ [b]) :=
  have ⟨g1, s1, o1, c1, h1⟩ := pop_acct h.shape hp
  h.trans ⟨g1, s1, ⟨[b], rfl, fun t ht => by rw [mem_singleton.mp ht]; exact o1, c1⟩, h1⟩

theorem allocOne_acct {m : Mem} {size : Nat} {m' : Mem} {b : BS} (hs : Shape m) (h : m.allocOne size = some (m', b)) :
    Got m [] m' [b] :=
  have ⟨_, hc⟩ := allocOne_some h
  got_pop (Got.refl m [] hs) hc

theorem allocMany_acct (m : Mem) (size : Nat) (hs : Shape m) :
    Got m [] (m.allocMany size).1 (m.allocMany size).2.1 := by
  unfold Mem.allocMany
  have ⟨_, h⟩ := allocMany_down_inv (fun m' acc _ _ => Got m [] m' acc) (fun _ _ _ _ _ _ _ h _ hp => got_pop h hp)
    m.caps.length m size [] 0 (Got.refl m [] hs)
  exact h

/-- the slices of a buffer point at real slots -/
def BufOK (m : Mem) (l : LBuf) : Prop := SlicesOK m (l.sl ++ l.pinned)

/-- the outcome of one buffer operation: the slices still point at real slots, and free and held slots balance -/
structure Acct (m : Mem) (l : LBuf) (m' : Mem) (l' : LBuf) : Prop where
  geo : Geo m m'
  shape : Shape m'
  ok : BufOK m' l'
  bal : ∀ j, fc m' j + (heldL l').count j = fc m j + (heldL l).count j
  hdr : ∀ p, p ∉ m.free.flatten → p ∉ heldL l → (m'.slot p).hdr = (m.slot p).hdr

theorem Acct.refl (m : Mem) (l : LBuf) (hs : Shape m) (ho : BufOK m l) : Acct m l m l :=
  ⟨Geo.refl m, hs, ho, fun _ => rfl, fun _ _ _ => rfl⟩

theorem Acct.outside {m m' : Mem} {l l' : LBuf} (a : Acct m l m' l') {p : Nat} (h1 : p ∉ m.free.flatten) (h2 : p ∉ heldL l) :
    p ∉ m'.free.flatten ∧ p ∉ heldL l' := by
  have := a.bal p
  rw [← fc_zero] at h1
  rw [← count_eq_zero] at h2
  rw [← fc_zero, ← count_eq_zero]
  omega

theorem Acct.trans {m m1 m2 : Mem} {l l1 l2 : LBuf} (a : Acct m l m1 l1) (b : Acct m1 l1 m2 l2) : Acct m l m2 l2 :=
  ⟨a.geo.trans b.geo, b.shape, b.ok, fun j => (b.bal j).trans (a.bal j), fun p h1 h2 => by
    obtain ⟨q1, q2⟩ := a.outside h1 h2
    rw [b.hdr p q1 q2, a.hdr p h1 h2]⟩

/-- slices are compared by what matters here: slot and capacity -/
def key (s : BS) : Option Nat × Nat := (s.slot, s.cap)

theorem heldS_key {a b : List BS} (h : a.map key = b.map key) : heldS a = heldS b := by
  have : ∀ l : List BS, heldS l = (l.map key).filterMap (·.1) := by
    intro l; simp [heldS, filterMap_map, key, Function.comp_def]
  rw [this, this, h]

theorem slicesOK_key {m : Mem} {a b : List BS} (h : a.map key = b.map key) (ho : SlicesOK m a) : SlicesOK m b := by
  intro s hs
  have : key s ∈ a.map key := by rw [h]; exact mem_map_of_mem hs
  obtain ⟨t, ht, e⟩ := mem_map.mp this
  intro i hi
  have e1 : t.slot = s.slot := congrArg Prod.fst e
  have e2 : t.cap = s.cap := congrArg Prod.snd e
  obtain ⟨x, y⟩ := ho t ht i (by rw [e1]; exact hi)
  exact ⟨x, by rw [← e2]; exact y⟩

structure Sim (l l' : LBuf) : Prop where
  sl : l'.sl.map key = l.sl.map key
  pinned : l'.pinned.map key = l.pinned.map key

theorem Sim.refl (l : LBuf) : Sim l l := ⟨rfl, rfl⟩

/-- memory touched without moving a slot (payload / header writes), slices touched without changing slot or capacity -/
theorem Acct.mem {m m' : Mem} {l l' : LBuf} (hs : Shape m) (ho : BufOK m l) (g : Geo m m') (hf : m'.free = m.free)
    (hh : ∀ p, p ∉ heldL l → (m'.slot p).hdr = (m.slot p).hdr) (h : Sim l l') : Acct m l m' l' := by
  refine ⟨g, shape_geo_free hs g (fun i hi => hs.freeLt i (by rw [← hf]; exact hi)), ?_, fun j => ?_, fun p _ h2 => hh p h2⟩
  · have : (l.sl ++ l.pinned).map key = (l'.sl ++ l'.pinned).map key := by rw [map_append, map_append, h.sl, h.pinned]
    exact slicesOK_key this (ho.geo g)
  · unfold heldL fc
    rw [hf, heldS_key h.sl, heldS_key h.pinned]

theorem Acct.lst {m : Mem} {l l' : LBuf} (hs : Shape m) (ho : BufOK m l) (h : Sim l l') : Acct m l m l' :=
  Acct.mem hs ho (Geo.refl m) rfl (fun _ _ => rfl) h

theorem Acct.upd {m m' : Mem} {l l' : LBuf} (a : Acct m l m' l') (l'' : LBuf) (h1 : l''.sl = l'.sl) (h2 : l''.pinned = l'.pinned) :
    Acct m l m' l'' :=
  a.trans (Acct.lst a.shape a.ok ⟨by rw [h1], by rw [h2]⟩)

theorem Acct.same (m : Mem) (l l' : LBuf) (hs : Shape m) (ho : BufOK m l) (h1 : l'.sl = l.sl) (h2 : l'.pinned = l.pinned) :
    Acct m l m l' :=
  Acct.lst hs ho ⟨by rw [h1], by rw [h2]⟩

/-- slices whose slots came out of the free lists (and heap slices) join the buffer's list -/
theorem Got.acct {m m' : Mem} {l l' : LBuf} {new hp : List BS} (G : Got m [] m' new) (ho : BufOK m l)
    (hsl : l'.sl = l.sl ++ new ++ hp) (hh : ∀ t ∈ hp, t.slot = none) (hpin : l'.pinned = l.pinned) : Acct m l m' l' := by
  obtain ⟨new', e, on, c⟩ := G.ext
  rw [nil_append] at e; subst e
  have h0 : heldS hp = [] := filterMap_eq_nil_iff.mpr hh
  refine ⟨G.geo, G.shape, ?_, fun j => ?_, fun p hp' _ => G.hdr p hp'⟩
  · unfold BufOK; rw [hsl, hpin]
    intro t ht
    simp only [mem_append] at ht
    rcases ht with ((ht | ht) | ht) | ht
    · exact (ho t (mem_append_left _ ht)).geo G.geo
    · exact on t ht
    · exact fun i hi => absurd (hh t ht ▸ hi) (by simp)
    · exact (ho t (mem_append_right _ ht)).geo G.geo
  · have := c j
    simp only [heldL, hsl, hpin, heldS_append, h0, count_append, count_nil]; omega

theorem alloc_acct {m : Mem} {l : LBuf} (size : Nat) (hs : Shape m) (ho : BufOK m l) :
    Acct m l (l.alloc m size).1 (l.alloc m size).2 := by
  unfold LBuf.alloc
  cases h1 : m.allocOne size with
  | some r => exact (allocOne_acct hs h1).acct ho (hp := []) (append_nil _).symm (fun _ h => nomatch h) rfl
  | none =>
    simp only
    have G := allocMany_acct m size hs
    split
    · exact G.acct ho (hp := [heapSlice _]) rfl (fun t ht => by rw [mem_singleton.mp ht]; rfl) rfl
    · exact G.acct ho (hp := []) (append_nil _).symm (fun _ h => nomatch h) rfl

theorem sim_setFront (l : LBuf) (f f' : BS) (h : l.front? = some f) (e : key f' = key f) : Sim l (l.setFront f') := by
  unfold LBuf.front? at h
  obtain ⟨r, hsl⟩ : ∃ r, l.sl = f :: r := by
    cases hsl : l.sl with
    | nil => rw [hsl] at h; cases h
    | cons a r => rw [hsl] at h; cases h; exact ⟨r, rfl⟩
  exact ⟨by simp [LBuf.setFront, hsl, e], rfl⟩

theorem append_geo (m : Mem) (s : BS) (d : List Nat) :
    Geo m (s.append m d).1 ∧ (s.append m d).1.free = m.free ∧ key (s.append m d).2.1 = key s ∧
      ∀ p, ((s.append m d).1.slot p).hdr = (m.slot p).hdr := by
  rcases e : s.append m d with ⟨m1, s1, k⟩
  obtain ⟨_, ⟨e1, _, _, e4, _⟩, _, hf, hl, hc, hsl⟩ := BS.append_eq e
  have hh : ∀ p, (m1.slot p).hdr = (m.slot p).hdr ∧ (m1.slot p).cap = (m.slot p).cap := by
    intro p; rw [hsl p]; split <;> exact ⟨rfl, rfl⟩
  exact ⟨⟨hl, fun i => (hh i).2, hc, by rw [hf]⟩, hf, by rw [key, e1, e4]; rfl, fun p => (hh p).1⟩

/-- an accounting step that moreover leaves every payload byte alone and keeps the free slots' headers clean -/
structure AcctR (m : Mem) (l : LBuf) (m' : Mem) (l' : LBuf) : Prop extends Acct m l m' l' where
  data : ∀ j, (m'.slot j).data = (m.slot j).data
  clean : (∀ i ∈ m.free.flatten, (m.slot i).hdr.size = 0 ∧ (m.slot i).hdr.start = 0) →
    ∀ i ∈ m'.free.flatten, (m'.slot i).hdr.size = 0 ∧ (m'.slot i).hdr.start = 0

theorem AcctR.refl (m : Mem) (l : LBuf) (hs : Shape m) (ho : BufOK m l) : AcctR m l m l :=
  ⟨Acct.refl m l hs ho, fun _ => rfl, fun h => h⟩
theorem AcctR.trans {m m1 m2 : Mem} {l l1 l2 : LBuf} (a : AcctR m l m1 l1) (b : AcctR m1 l1 m2 l2) : AcctR m l m2 l2 :=
  ⟨a.toAcct.trans b.toAcct, fun j => (b.data j).trans (a.data j), fun h => b.clean (a.clean h)⟩
theorem AcctR.lst {m : Mem} {l l' : LBuf} (hs : Shape m) (ho : BufOK m l) (h : Sim l l') : AcctR m l m l' :=
  ⟨Acct.lst hs ho h, fun _ => rfl, fun h => h⟩

/-- one slice goes back.  The caller says where it came from: `l'` is any buffer that holds what `l` holds minus that slice
    (the list without its front, the parked slices without one of them) -/
theorem recycle_acctR (m : Mem) (s : BS) (l l' : LBuf) (hs : Shape m) (ho : SliceOK m s) (ok' : BufOK m l')
    (hb : ∀ j, (heldL l').count j + (heldS [s]).count j = (heldL l).count j) : AcctR m l (m.recycle s) l' := by
  obtain ⟨g, s', c, hh, cl⟩ := recycle_acct m s hs ho
  refine ⟨⟨g, s', ok'.geo g, fun j => ?_, fun p _ hp => hh p (fun hx => hp ?_)⟩, fun j => recycle_data m s j, cl⟩
  · have := c j; have := hb j; omega
  · have := hb p
    have h1 : 0 < (heldS [s]).count p := count_pos_iff.mpr hx
    exact count_pos_iff.mp (by omega)

/-- a run of recycles (cleanPinnedList, recycle, done's unused tail) -/
theorem recycles_acctR : ∀ (sl : List BS) (m : Mem) (l l' : LBuf), Shape m → SlicesOK m sl → BufOK m l' →
    (∀ j, (heldL l').count j + (heldS sl).count j = (heldL l).count j) → AcctR m l (sl.foldl (fun m s => m.recycle s) m) l'
  | [], m, l, l', hs, _, ok', hb => by
    refine ⟨⟨Geo.refl m, hs, ok', fun j => ?_, fun _ _ _ => rfl⟩, fun _ => rfl, fun h => h⟩
    have := hb j; simp only [heldS_nil, count_nil] at this; simp only [foldl_nil]; omega
  | s :: r, m, l, l', hs, ho, ok', hb => by
    -- first the head (towards an intermediate buffer that still holds the rest), then the rest
    let li : LBuf := { sl := l'.sl ++ r, pinned := l'.pinned }
    have oki : BufOK m li := by
      intro t ht
      simp only [li, mem_append] at ht
      rcases ht with (ht | ht) | ht
      · exact ok' t (mem_append_left _ ht)
      · exact ho t (mem_cons_of_mem _ ht)
      · exact ok' t (mem_append_right _ ht)
    have hli : ∀ j, (heldL li).count j = (heldL l').count j + (heldS r).count j := by
      intro j; simp only [heldL, li, heldS_append, count_append]; omega
    have a1 : AcctR m l (m.recycle s) li := recycle_acctR m s l li hs (ho s mem_cons_self) oki (fun j => by
      have := hb j; rw [heldS_cons s r, count_append] at this; rw [hli]; omega)
    have a2 := recycles_acctR r (m.recycle s) li l' a1.shape (fun t ht => (ho t (mem_cons_of_mem _ ht)).geo a1.geo)
      (ok'.geo a1.geo) (fun j => by rw [hli])
    rw [foldl_cons]
    exact a1.trans a2

theorem front_recycle_acct {m : Mem} {l l' : LBuf} {s : BS} {r : List BS} (hs : Shape m) (ho : BufOK m l) (hsl : l.sl = s :: r)
    (e1 : l'.sl = r) (e2 : l'.pinned = l.pinned) : AcctR m l (m.recycle s) l' :=
  recycle_acctR m s l l' hs (ho s (by rw [hsl]; exact mem_append_left _ mem_cons_self))
    (fun t ht => ho t (by
      rw [e1, e2] at ht; rw [hsl]
      exact (mem_append.mp ht).elim (fun h => mem_append_left _ (mem_cons_of_mem _ h)) (mem_append_right _)))
    (fun j => by simp only [heldL, e1, e2, hsl, heldS_cons s r, count_append]; omega)

/-- readNextSlice: the front slice is parked, or goes back (a heap slice holds no slot) -/
theorem readNext_acct {m : Mem} {l : LBuf} {m' : Mem} {l' : LBuf} (hs : Shape m) (ho : BufOK m l)
    (h : l.readNext m = some (m', l')) : AcctR m l m' l' := by
  cases hsl : l.sl with
  | nil => rw [readNext_nil m hsl] at h; cases h
  | cons s r =>
    have hos : SliceOK m s := ho s (by rw [hsl]; simp)
    have hor : SlicesOK m (r ++ l.pinned) := fun t ht => ho t (by
      rw [hsl]; rcases mem_append.mp ht with ht | ht
      · exact mem_append_left _ (mem_cons_of_mem _ ht)
      · exact mem_append_right _ ht)
    obtain ⟨l1, hcase, e1, _⟩ := readNext_eq (m := m) hsl
    rcases hcase with ⟨e, e2⟩ | ⟨_, e, e2⟩ <;> rw [e] at h <;> cases h
    · refine ⟨⟨Geo.refl m, hs, ?_, fun j => ?_, fun _ _ _ => rfl⟩, fun _ => rfl, fun h => h⟩
      · intro t ht
        rw [e1, e2, ← append_assoc] at ht
        rcases mem_append.mp ht with ht | ht
        · exact hor t ht
        · rw [mem_singleton.mp ht]; exact hos
      · simp only [heldL, e1, e2, hsl, heldS_cons s r, heldS_append, count_append]; omega
    · exact front_recycle_acct hs ho hsl e1 e2

/-- the read index of the front slice moves: nothing is accounted -/
theorem acct_front {m : Mem} {l : LBuf} (f f' : BS) (l' : LBuf) (hs : Shape m) (ho : BufOK m l) (h : l.front? = some f)
    (e : key f' = key f) (h1 : l'.sl = (l.setFront f').sl) (h2 : l'.pinned = l.pinned) : AcctR m l m l' :=
  AcctR.lst hs ho ⟨by rw [h1]; exact (sim_setFront l f f' h e).sl, by rw [h2]⟩

/-- ... and then the front slice is popped: the step every reader loop repeats -/
theorem acct_front_next {m m2 : Mem} {l l2 : LBuf} {f f' : BS} (hs : Shape m) (ho : BufOK m l) (hf : l.front? = some f)
    (e : key f' = key f) (hn : (l.setFront f').readNext m = some (m2, l2)) : AcctR m l m2 l2 :=
  have a1 := acct_front f f' _ hs ho hf e rfl rfl
  a1.trans (readNext_acct hs a1.ok hn)

/-- the prelude of ReadBytes and ReadString: a used-up front slice is popped first -/
theorem acct_skip_empty {m m1 : Mem} {l l1 : LBuf} {c : Prop} [Decidable c] (hs : Shape m) (ho : BufOK m l)
    (h : (if c then l.readNext m else some (m, l)) = some (m1, l1)) : AcctR m l m1 l1 := by
  split at h
  · exact readNext_acct hs ho h
  · cases h; exact AcctR.refl m l hs ho

theorem key_read (m : Mem) (f : BS) (n : Nat) : key (f.read m n).1 = key f := rfl

theorem readBytes_slow_acct : ∀ (fuel : Nat) (m : Mem) (l : LBuf) (need : Nat) (acc : List Nat) (m' : Mem) (l' : LBuf)
    (d : List Nat), Shape m → BufOK m l → LBuf.readBytes.slow fuel m l need acc = some (m', l', d) → AcctR m l m' l' := by
  intro fuel
  induction fuel with
  | zero => intro m l need acc m' l' d _ _ h; cases h
  | succ k ih =>
    intro m l need acc m' l' d hs ho h
    unfold LBuf.readBytes.slow at h
    split at h
    · cases h; exact AcctR.refl m l hs ho
    · split at h
      · cases h
      · rename_i f hf
        simp only at h
        split at h
        · split at h
          · cases h
          · rename_i m2 l2 hn
            have a := acct_front_next hs ho hf (key_read m f need) hn
            exact a.trans (ih m2 l2 _ _ m' l' d a.shape a.ok h)
        · have a := acct_front f _ _ hs ho hf (key_read m f need) rfl rfl
          exact a.trans (ih m _ _ _ m' l' d hs a.ok h)

theorem readBytes_acct {m : Mem} {l : LBuf} {size : Nat} {m' : Mem} {l' : LBuf} {d : List Nat} (hs : Shape m) (ho : BufOK m l)
    (h : l.readBytes m size = some (m', l', d)) : AcctR m l m' l' := by
  unfold LBuf.readBytes at h
  split at h
  · cases h; exact AcctR.refl m l hs ho
  · split at h
    · cases h
    · simp only at h
      split at h
      · cases h
      · rename_i m1 l1 h1
        have a1 := acct_skip_empty hs ho h1
        split at h
        · cases h
        · rename_i f hf
          split at h
          · cases h; exact a1.trans (acct_front f _ _ a1.shape a1.ok hf (key_read _ f size) rfl rfl)
          · have a2 : AcctR m1 l1 m1 { l1 with len := l1.len - size } := AcctR.lst a1.shape a1.ok ⟨rfl, rfl⟩
            exact (a1.trans a2).trans (readBytes_slow_acct _ m1 _ _ _ m' l' d a1.shape a2.ok h)

theorem peek_acct {m : Mem} {l : LBuf} {size : Nat} {l' : LBuf} {d : List Nat} (hs : Shape m) (ho : BufOK m l)
    (h : l.peekBytes m size = some (l', d)) : AcctR m l m l' := by
  unfold LBuf.peekBytes at h
  split at h
  · cases h; exact AcctR.refl m l hs ho
  · split at h
    · cases h
    · simp only at h
      split at h <;> cases h
      · exact AcctR.lst hs ho ⟨rfl, rfl⟩
      · exact AcctR.refl m l hs ho

theorem discard_go_acct : ∀ (fuel : Nat) (m : Mem) (l : LBuf) (need n : Nat) (m' : Mem) (l' : LBuf) (k : Nat),
    Shape m → BufOK m l → LBuf.discard.go fuel m l need n = some (m', l', k) → AcctR m l m' l' := by
  intro fuel
  induction fuel with
  | zero => intro m l need n m' l' k _ _ h; cases h
  | succ f ih =>
    intro m l need n m' l' k hs ho h
    unfold LBuf.discard.go at h
    split at h
    · cases h
    · rename_i fr hf
      simp only at h
      split at h
      · cases h; exact acct_front fr _ _ hs ho hf (key_read m fr need) rfl rfl
      · split at h
        · cases h
        · rename_i m2 l2 hn
          have a := acct_front_next hs ho hf (key_read m fr need) hn
          exact a.trans (ih m2 l2 _ _ m' l' k a.shape a.ok h)

theorem discard_acct {m : Mem} {l : LBuf} {size : Nat} {m' : Mem} {l' : LBuf} {k : Nat} (hs : Shape m) (ho : BufOK m l)
    (h : l.discard m size = some (m', l', k)) : AcctR m l m' l' := by
  unfold LBuf.discard at h
  split at h
  · cases h; exact AcctR.refl m l hs ho
  · exact discard_go_acct _ m l _ _ m' l' k hs ho h

theorem readByte_go_acct : ∀ (fuel : Nat) (m : Mem) (l : LBuf) (m' : Mem) (l' : LBuf) (b : Nat), Shape m → BufOK m l →
    LBuf.readByte.go fuel m l = some (m', l', b) → AcctR m l m' l' := by
  intro fuel
  induction fuel with
  | zero => intro m l m' l' b _ _ h; cases h
  | succ k ih =>
    intro m l m' l' b hs ho h
    unfold LBuf.readByte.go at h
    split at h
    · cases h
    · rename_i f hf
      simp only at h
      split at h
      · cases h; exact acct_front f _ _ hs ho hf (key_read m f 1) rfl rfl
      · split at h
        · cases h
        · rename_i m2 l2 hn
          have a := acct_front_next hs ho hf (key_read m f 1) hn
          exact a.trans (ih m2 l2 m' l' b a.shape a.ok h)

theorem readByte_acct {m : Mem} {l : LBuf} {m' : Mem} {l' : LBuf} {b : Nat} (hs : Shape m) (ho : BufOK m l)
    (h : l.readByte m = some (m', l', b)) : AcctR m l m' l' :=
  readByte_go_acct _ m l m' l' b hs ho h

theorem readString_slow_acct (size : Nat) : ∀ (fuel : Nat) (m : Mem) (l : LBuf) (written : Nat) (acc : List Nat) (m' : Mem)
    (l' : LBuf) (d : List Nat), Shape m → BufOK m l → LBuf.readString.slow size fuel m l written acc = some (m', l', d) →
    AcctR m l m' l' := by
  intro fuel
  induction fuel with
  | zero => intro m l w acc m' l' d _ _ h; cases h
  | succ k ih =>
    intro m l w acc m' l' d hs ho h
    unfold LBuf.readString.slow at h
    split at h
    · cases h; exact AcctR.lst hs ho ⟨rfl, rfl⟩
    · split at h
      · cases h
      · simp only at h
        split at h
        · cases h
        · rename_i m1 l1 h1
          have a1 := acct_skip_empty hs ho h1
          split at h
          · cases h
          · rename_i g hg
            have a2 := acct_front g _ _ a1.shape a1.ok hg (key_read m1 g (size - w)) rfl rfl
            exact (a1.trans a2).trans (ih m1 _ _ _ m' l' d a1.shape a2.ok h)

theorem readString_acct {m : Mem} {l : LBuf} {size : Nat} {m' : Mem} {l' : LBuf} {d : List Nat} (hs : Shape m) (ho : BufOK m l)
    (h : l.readString m size = some (m', l', d)) : AcctR m l m' l' := by
  unfold LBuf.readString at h
  split at h
  · cases h; exact AcctR.refl m l hs ho
  · split at h
    · cases h
    · rename_i f hf
      split at h
      · cases h; exact acct_front f _ _ hs ho hf (key_read m f size) rfl rfl
      · exact readString_slow_acct size _ m l _ _ m' l' d hs ho h

theorem readInto_go_acct (size : Nat) : ∀ (fuel : Nat) (m : Mem) (l : LBuf) (written : Nat) (acc : List Nat) (m' : Mem)
    (l' : LBuf) (d : List Nat), Shape m → BufOK m l → LBuf.readInto.go size fuel m l written acc = some (m', l', d) →
    AcctR m l m' l' := by
  intro fuel
  induction fuel with
  | zero => intro m l w acc m' l' d _ _ h; cases h
  | succ k ih =>
    intro m l w acc m' l' d hs ho h
    unfold LBuf.readInto.go at h
    split at h
    · cases h; exact AcctR.lst hs ho ⟨rfl, rfl⟩
    · rename_i f hf
      split at h
      · simp only at h
        split at h
        · cases h; exact acct_front f _ _ hs ho hf (key_read m f (size - w)) rfl rfl
        · split at h
          · cases h
          · rename_i m2 l2 hn
            have a := acct_front_next hs ho hf (key_read m f (size - w)) hn
            exact a.trans (ih m2 l2 _ _ m' l' d a.shape a.ok h)
      · cases h; exact AcctR.lst hs ho ⟨rfl, rfl⟩

theorem readInto_acct {m : Mem} {l : LBuf} {size : Nat} {m' : Mem} {l' : LBuf} {d : List Nat} (hs : Shape m) (ho : BufOK m l)
    (h : l.readInto m size = some (m', l', d)) : AcctR m l m' l' := by
  unfold LBuf.readInto at h
  split at h
  · cases h; exact AcctR.refl m l hs ho
  · exact readInto_go_acct size _ m l _ _ m' l' d hs ho h

/-- the parked slices go back (cleanPinnedList, and the first half of `recycle`); `l'` is any buffer that lists what `l`
    lists and has nothing parked -/
theorem unpin_acct (m : Mem) (l l' : LBuf) (hs : Shape m) (ho : BufOK m l) (h1 : l'.sl = l.sl) (h2 : l'.pinned = []) :
    AcctR m l (l.pinned.foldl (fun m s => m.recycle s) m) l' :=
  recycles_acctR l.pinned m l l' hs (fun t ht => ho t (mem_append_right _ ht))
    (fun t ht => ho t (by rw [h1, h2, append_nil] at ht; exact mem_append_left _ ht))
    (fun j => by simp only [heldL, h1, h2, heldS_nil, append_nil, count_append])

theorem release_acct {m : Mem} {l : LBuf} (hs : Shape m) (ho : BufOK m l) :
    AcctR m l (l.release m).1 (l.release m).2 := by
  obtain ⟨hp, _, ⟨e1, e2⟩ | ⟨f, _, e2, e1⟩⟩ := release_eq m l <;> rw [e1, (cleanPinned_eq m l).1]
  · exact unpin_acct m l _ hs ho e2 hp
  · -- the front slice leaves the list after the parked ones have gone back
    have a1 := unpin_acct m l { l with pinned := [] } hs ho rfl rfl
    exact a1.trans (front_recycle_acct a1.shape a1.ok e2 rfl hp)

/-- linkedBuffer.recycle (Close): everything the buffer holds goes back -/
theorem lrecycle_acct {m : Mem} {l : LBuf} (hs : Shape m) (ho : BufOK m l) :
    AcctR m l (l.recycle m).1 (l.recycle m).2 ∧ heldL (l.recycle m).2 = [] := by
  unfold LBuf.recycle
  have a1 := unpin_acct m l { sl := l.sl } hs ho rfl rfl
  have a2 : AcctR _ { sl := l.sl } (l.sl.foldl (fun m s => m.recycle s) (l.pinned.foldl (fun m s => m.recycle s) m)) {} :=
    recycles_acctR l.sl _ _ _ a1.shape (fun t ht => a1.ok t (mem_append_left _ ht)) (fun _ ht => nomatch ht)
      (fun j => by show ([] : List Nat).count j + _ = (heldS l.sl ++ heldS []).count j; simp)
  exact ⟨a1.trans a2, rfl⟩

theorem acct_append {m : Mem} {l : LBuf} (wi : Nat) (ws : BS) (d : List Nat) (l' : LBuf) (hs : Shape m) (ho : BufOK m l)
    (h : l.sl[wi]? = some ws) (h1 : l'.sl = (l.setAt wi (ws.append m d).2.1).sl) (h2 : l'.pinned = l.pinned) :
    Acct m l (ws.append m d).1 l' := by
  obtain ⟨g, hf, hk, hh⟩ := append_geo m ws d
  exact Acct.mem hs ho g hf (fun p _ => hh p) ⟨by rw [h1]; exact map_set_same key h hk, by rw [h2]⟩

/-- the optional first allocation of a write -/
theorem first_alloc_acct (m : Mem) (l : LBuf) (size : Nat) (hs : Shape m) (ho : BufOK m l) {p : Mem × LBuf}
    (e : (match l.w with
      | some _ => (m, l)
      | none => let (m', l') := l.alloc m size; (m', { l' with w := if l'.sl.isEmpty then none else some 0 })) = p) :
    Acct m l p.1 p.2 := by
  subst e
  cases l.w with
  | some _ => exact Acct.refl m l hs ho
  | none => exact (alloc_acct size hs ho).upd _ rfl rfl

theorem writeBytes_go_acct : ∀ (fuel : Nat) (m : Mem) (l : LBuf) (d : List Nat) (n : Nat) (m' : Mem) (l' : LBuf),
    Shape m → BufOK m l → LBuf.writeBytes.go fuel m l d n = some (m', l') → Acct m l m' l' := by
  intro fuel
  induction fuel with
  | zero => intro m l d n m' l' _ _ h; cases h
  | succ f ih =>
    intro m l d n m' l' hs ho h
    unfold LBuf.writeBytes.go at h
    split at h
    · cases h
    · rename_i wi hw
      split at h
      · cases h
      · rename_i ws hws
        simp only at h
        have a1 : Acct m l (ws.append m d).1 (l.setAt wi (ws.append m d).2.1) := acct_append wi ws d _ hs ho hws rfl rfl
        split at h
        · cases h; exact acct_append wi ws d _ hs ho hws rfl rfl
        · split at h
          · have b1 := a1.upd { (l.setAt wi (ws.append m d).2.1) with w := some (wi + 1) } rfl rfl
            exact b1.trans (ih _ _ _ _ m' l' b1.shape b1.ok h)
          · have b2 := (a1.trans (alloc_acct (d.drop (ws.append m d).2.2).length a1.shape a1.ok)).upd
              { (LBuf.alloc (ws.append m d).1 (l.setAt wi (ws.append m d).2.1) (d.drop (ws.append m d).2.2).length).2 with
                w := if wi + 1 < (LBuf.alloc (ws.append m d).1 (l.setAt wi (ws.append m d).2.1) (d.drop (ws.append m d).2.2).length).2.sl.length then some (wi + 1) else none } rfl rfl
            exact b2.trans (ih _ _ _ _ m' l' b2.shape b2.ok h)

theorem writeBytes_acct {m : Mem} {l : LBuf} {d : List Nat} {m' : Mem} {l' : LBuf} (hs : Shape m) (ho : BufOK m l)
    (h : l.writeBytes m d = some (m', l')) : Acct m l m' l' := by
  unfold LBuf.writeBytes at h
  split at h
  · cases h; exact Acct.refl m l hs ho
  · have a1 := first_alloc_acct m l d.length hs ho rfl
    exact a1.trans (writeBytes_go_acct _ _ _ _ _ m' l' a1.shape a1.ok h)

theorem writeByte_acct {m : Mem} {l : LBuf} {b : Nat} {m' : Mem} {l' : LBuf} (hs : Shape m) (ho : BufOK m l)
    (h : l.writeByte m b = some (m', l')) : Acct m l m' l' := by
  unfold LBuf.writeByte at h
  split at h
  rename_i m0 l0 e0
  have a0 := first_alloc_acct m l 1 hs ho e0
  split at h
  · cases h
  · rename_i wi hw
    split at h
    · cases h
    · rename_i ws hws
      split at h
      rename_i m1 ws1 k ea
      split at h
      · cases h
        refine a0.trans ?_
        rw [show m' = (ws.append m0 [b]).1 by rw [ea]]
        exact acct_append wi ws [b] _ a0.shape a0.ok hws (by rw [ea]) rfl
      · -- the byte did not fit: the write slice is left alone, a slice is allocated, the byte goes there
        have a1 : Acct m0 l0 (ws.append m0 [b]).1 l0 :=
          have ⟨g, hf, _, hh⟩ := append_geo m0 ws [b]
          Acct.mem a0.shape a0.ok g hf (fun p _ => hh p) (Sim.refl l0)
        rw [ea] at a1
        have a2 := alloc_acct 1 a1.shape a1.ok
        split at h
        rename_i m2 l2 e2
        rw [e2] at a2
        split at h
        · split at h
          · cases h
          · rename_i ns hns
            split at h
            rename_i m3 ns1 _ e3
            cases h
            refine ((a0.trans a1).trans a2).trans ?_
            rw [show m' = (ns.append m2 [b]).1 by rw [e3]]
            exact acct_append (wi + 1) ns [b] _ a2.shape a2.ok hns (by rw [e3]) rfl
        · cases h

/-- linkedBuffer.appendBufferSlice (a slice that arrives by transport) -/
theorem appendSlice_acct (m : Mem) (l : LBuf) (s : BS) (hs : Shape m) (ho : BufOK m l) (hos : SliceOK m s) :
    Shape m ∧ BufOK m (l.appendSlice s) ∧ ∀ j, (heldL (l.appendSlice s)).count j = (heldL l).count j + (heldS [s]).count j := by
  refine ⟨hs, ?_, fun j => ?_⟩
  · intro t ht
    simp only [LBuf.appendSlice, mem_append, mem_singleton] at ht
    rcases ht with (ht | ht) | ht
    · exact ho t (mem_append_left _ ht)
    · rw [ht]; exact hos
    · exact ho t (mem_append_right _ ht)
  · simp only [heldL, LBuf.appendSlice, heldS_append, count_append]
    omega

theorem doneStep_geo (l : LBuf) (m : Mem) (i : Nat) : Geo m (doneStep l m i) ∧ (doneStep l m i).free = m.free ∧
    ∀ p, p ∉ heldS l.sl → ((doneStep l m i).slot p).hdr = (m.slot p).hdr := by
  unfold doneStep
  cases hs : l.sl[i]? with
  | none => exact ⟨Geo.refl m, rfl, fun _ _ => rfl⟩
  | some s =>
    obtain ⟨g, f, _, h, _⟩ := updateHdr_spec m s l.sl[i + 1]?
    refine ⟨g, f, fun p hp => h p (fun hx => hp ?_)⟩
    obtain ⟨t, ht, e⟩ := mem_filterMap.mp hx
    exact mem_filterMap.mpr ⟨s, mem_of_getElem? hs, mem_singleton.mp ht ▸ e⟩

/-- linkedBuffer.done: headers are written, the unused tail goes back -/
theorem done_acct {m : Mem} {l : LBuf} {m' : Mem} {l' : LBuf} (hs : Shape m) (ho : BufOK m l)
    (h : l.done m = some (m', l')) : Acct m l m' l' := by
  unfold LBuf.done at h
  split at h
  · cases h; exact Acct.refl m l hs ho
  · split at h
    · cases h
    · rename_i wi hw
      cases h
      change Acct m l ((l.sl.drop (wi + 1)).foldl (fun m s => m.recycle s) ((List.range (wi + 1)).foldl (doneStep l) m)) _
      obtain ⟨g1, f1, hh1⟩ := foldlRecOn (List.range (wi + 1)) (doneStep l)
        (motive := fun mk => Geo m mk ∧ mk.free = m.free ∧ ∀ p, p ∉ heldS l.sl → (mk.slot p).hdr = (m.slot p).hdr)
        ⟨Geo.refl m, rfl, fun _ _ => rfl⟩ fun mk ⟨g, f, hh⟩ i _ =>
          have ⟨g', f', hh'⟩ := doneStep_geo l mk i
          ⟨g.trans g', f'.trans f, fun p hp => (hh' p hp).trans (hh p hp)⟩
      have a1 : Acct m l _ l := Acct.mem hs ho g1 f1 (fun p hp => hh1 p (fun hx => hp (mem_append_left _ hx))) (Sim.refl l)
      refine a1.trans (recycles_acctR (l.sl.drop (wi + 1)) _ l _ a1.shape
        (fun t ht => a1.ok t (mem_append_left _ (mem_of_mem_drop ht))) (fun t ht => ?_) (fun j => ?_)).toAcct
      · rcases mem_append.mp ht with ht | ht
        · exact a1.ok t (mem_append_left _ (mem_of_mem_take ht))
        · exact a1.ok t (mem_append_right _ ht)
      · have hsplit : heldS l.sl = heldS (l.sl.take (wi + 1)) ++ heldS (l.sl.drop (wi + 1)) := by
          rw [← heldS_append, take_append_drop]
        simp only [heldL, hsplit, count_append]
        omega

end LB

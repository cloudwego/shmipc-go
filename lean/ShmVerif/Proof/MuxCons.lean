import ShmVerif.Proof.Mux
/-!
  Message conservation in the message-level model `Mux`: every message ever flushed is, at all times, in exactly one
  place — the sender's queue, the control connection, one stream's buffer, or released.  Stated per token with
  `List.count`; needs that stream ids are unique per end and that a stream outside the table buffers nothing.
  Proved by accounting per operation: Flush creates exactly one token, a delivery takes tokens out of a channel and places
  each of them in a buffer or releases it, nothing else creates or loses one.
-/
namespace Mux
open List

def qTokens (q : List QEl) : List Nat := (q.filter (fun el => !el.isClose)).map (·.msg)
def kTok : Ev → Option Nat | .fb _ m => some m | _ => none
def kTokens (k : List Ev) : List Nat := k.filterMap kTok
def bufAll (e : MEnd) : List Nat := e.streams.flatMap (·.buffered)

/-- how many places hold token `t` -/
def occ (s : Sys) (t : Nat) : Nat :=
  s.retired.count t + (qTokens (s.ch .a).q).count t + (qTokens (s.ch .b).q).count t +
  (kTokens (s.ch .a).k).count t + (kTokens (s.ch .b).k).count t + (bufAll (s.me .a)).count t + (bufAll (s.me .b)).count t

def Uniq (e : MEnd) : Prop := (e.streams.map (·.id)).Nodup
def Clean (e : MEnd) : Prop := ∀ st ∈ e.streams, e.registered st.id = false → st.buffered = []

theorem qTokens_append (a b : List QEl) : qTokens (a ++ b) = qTokens a ++ qTokens b := by simp [qTokens]
theorem kTokens_append (a b : List Ev) : kTokens (a ++ b) = kTokens a ++ kTokens b := by simp [kTokens]

theorem qTokens_cons (el : QEl) (rest : List QEl) :
    qTokens (el :: rest) = if el.isClose then qTokens rest else el.msg :: qTokens rest := by
  unfold qTokens
  cases h : el.isClose <;> simp [h]
theorem qTokens_data (i m : Nat) : qTokens [{ sid := i, msg := m, isClose := false }] = [m] := rfl
theorem qTokens_close (i m : Nat) : qTokens [{ sid := i, msg := m, isClose := true }] = [] := rfl
theorem kTokens_cons (ev : Ev) (k : List Ev) : kTokens (ev :: k) = (kTok ev).toList ++ kTokens k := by
  rw [kTokens, filterMap_cons]; cases kTok ev <;> rfl
theorem kTokens_wake (c : Chan) : kTokens c.wake.k = kTokens c.k := filterMap_wake _ rfl c

theorem find_none_of (e : MEnd) (i : Nat) (h : e.find i = none) : ∀ st ∈ e.streams, st.id ≠ i := by
  intro st hst hid
  simpa [hid] using find?_eq_none.mp h st hst

/-- occurrences of token `t` in a channel -/
def inCh (c : Chan) (t : Nat) : Nat := (qTokens c.q).count t + (kTokens c.k).count t

/-- `occ` is a sum over the two sides; this is it with `x` first (its definition has `.a` first) -/
theorem occ_split (s : Sys) (x : Side) (t : Nat) :
    occ s t = s.retired.count t + inCh (s.ch x) t + inCh (s.ch x.peer) t + (bufAll (s.me x)).count t + (bufAll (s.me x.peer)).count t := by
  cases x <;> simp only [occ, inCh, Side.peer] <;> omega

theorem occ_of {s s' : Sys} (x : Side) (t d : Nat) (hch : s'.ch x.peer = s.ch x.peer) (hme : s'.me x.peer = s.me x.peer)
    (h : s'.retired.count t + inCh (s'.ch x) t + (bufAll (s'.me x)).count t =
      s.retired.count t + inCh (s.ch x) t + (bufAll (s.me x)).count t + d) : occ s' t = occ s t + d := by
  rw [occ_split s' x, occ_split s x, hch, hme]; omega

/-! The states the operations of end `x` produce: `g` is `s` with other ghost fields and a longer released list. -/

theorem occ_putMe {s g : Sys} (x : Side) (e : MEnd) (t d : Nat) (hge : g.ends = s.ends) (hgc : g.ch = s.ch)
    (h : g.retired.count t + (bufAll e).count t = s.retired.count t + (bufAll (s.me x)).count t + d) :
    occ (g.setMe x e) t = occ s t + d := by
  refine occ_of x t d (by rw [setMe_ch, hgc]) (by rw [setMe_me_other _ _ _ _ (peer_ne x), Sys.me, hge]; rfl) ?_
  rw [setMe_me_same, setMe_ch, hgc]; show count t g.retired + _ + _ = _; omega

theorem occ_putCh {s g : Sys} (x : Side) (c : Chan) (t d : Nat) (hge : g.ends = s.ends) (hgc : g.ch = s.ch)
    (h : g.retired.count t + inCh c t = s.retired.count t + inCh (s.ch x) t + d) : occ (g.setCh x c) t = occ s t + d := by
  have hm : ∀ y, g.me y = s.me y := fun y => by rw [Sys.me, hge]; rfl
  refine occ_of x t d (by rw [setCh_ch_other _ _ _ _ (peer_ne x), hgc]) (by rw [setCh_me, hm]) ?_
  rw [setCh_ch_same, setCh_me, hm]; show count t g.retired + _ + _ = _; omega

theorem occ_put {s g : Sys} (x : Side) (e : MEnd) (c : Chan) (t d : Nat) (hge : g.ends = s.ends) (hgc : g.ch = s.ch)
    (h : g.retired.count t + inCh c t + (bufAll e).count t = s.retired.count t + inCh (s.ch x) t + (bufAll (s.me x)).count t + d) :
    occ ((g.setMe x e).setCh x c) t = occ s t + d := by
  refine occ_of x t d (by rw [setCh_ch_other _ _ _ _ (peer_ne x), setMe_ch, hgc])
    (by rw [setCh_me, setMe_me_other _ _ _ _ (peer_ne x), Sys.me, hge]; rfl) ?_
  rw [setCh_ch_same, setCh_me, setMe_me_same]; exact h

theorem inCh_emit (c : Chan) (ev : Ev) (t : Nat) : inCh { c with k := c.k ++ [ev] } t = inCh c t + ((kTok ev).toList).count t := by
  simp only [inCh, kTokens, filterMap_append, count_append]
  cases h : kTok ev <;> simp [h, Nat.add_assoc]

theorem inCh_enq (c : Chan) (el : QEl) (t : Nat) :
    inCh ({ c with q := c.q ++ [el] } : Chan).wake t = inCh c t + (qTokens [el]).count t := by
  simp only [inCh, kTokens_wake, wake_q, qTokens_append, count_append]; omega

theorem inCh_pop {c : Chan} {ev : Ev} {rest : List Ev} (hk : c.k = ev :: rest) (t : Nat) :
    inCh c t = inCh { c with k := rest } t + ((kTok ev).toList).count t := by
  simp only [inCh, hk, kTokens_cons, count_append]; omega

/-- what conservation needs of a stream table: `find` / `upd` address one stream, and only registered streams buffer -/
structure EndOK (e : MEnd) : Prop where
  uniq : Uniq e
  clean : Clean e

theorem EndOK.of_eq {e e' : MEnd} (h : EndOK e) (hs : e'.streams = e.streams) (ht : e'.table = e.table) : EndOK e' :=
  ⟨by rw [Uniq, hs]; exact h.uniq, fun st hst hr => h.clean st (hs ▸ hst) (by rwa [MEnd.registered, ht] at hr)⟩

theorem ends_setMe {s : Sys} {P : MEnd → Prop} (h : ∀ y, P (s.me y)) (x : Side) {e : MEnd} (he : P e) :
    ∀ y, P ((s.setMe x e).me y) := by
  intro y; rw [me_setMe]; split
  · exact he
  · exact h y

theorem upd_id {i : Nat} {f : MStream → MStream} (hf : ∀ y, (f y).id = y.id) (y : MStream) :
    (if y.id = i then f y else y).id = y.id := by split <;> simp [hf]

theorem uniq_upd {e : MEnd} (h : Uniq e) (i : Nat) (f : MStream → MStream) (hf : ∀ y, (f y).id = y.id) : Uniq (e.upd i f) := by
  have : (e.upd i f).streams.map (·.id) = e.streams.map (·.id) := by
    rw [MEnd.upd, map_map]; exact map_congr_left fun y _ => upd_id hf y
  rw [Uniq, this]; exact h

theorem EndOK.upd {e : MEnd} (h : EndOK e) (i : Nat) (f : MStream → MStream) (hf : ∀ y, (f y).id = y.id)
    (hb : ∀ y, (f y).buffered = y.buffered ∨ (f y).buffered = []) : EndOK (e.upd i f) := by
  refine ⟨uniq_upd h.uniq i f hf, fun st hst hreg => ?_⟩
  obtain ⟨y, hy, rfl⟩ := mem_map.mp hst
  rw [upd_id hf] at hreg
  have := h.clean y hy hreg
  split
  · exact (hb y).elim (·.trans this) id
  · exact this

theorem bufAll_upd_same (e : MEnd) (i : Nat) (f : MStream → MStream) (hb : ∀ y, (f y).buffered = y.buffered) :
    bufAll (e.upd i f) = bufAll e := by
  rw [bufAll, bufAll, MEnd.upd, flatMap_def, flatMap_def, map_map]
  congr 1
  exact map_congr_left fun y _ => by simp only [Function.comp]; split <;> simp [hb]

theorem bufAll_upd {e : MEnd} (hu : Uniq e) {i : Nat} {st : MStream} (hfind : e.find i = some st) (f : MStream → MStream)
    (t : Nat) : (bufAll (e.upd i f)).count t + st.buffered.count t = (bufAll e).count t + (f st).buffered.count t := by
  unfold Uniq at hu; unfold MEnd.find at hfind; unfold bufAll MEnd.upd
  generalize e.streams = l at hu hfind
  induction l with
  | nil => cases hfind
  | cons y ys ih =>
    rw [map_cons, nodup_cons] at hu
    rw [find?_cons] at hfind
    by_cases hy : y.id = i
    · -- `y` is the one; nothing in `ys` has this id
      rw [show decide (y.id = i) = true from decide_eq_true hy] at hfind
      cases hfind
      have hmap : ys.map (fun x => if x.id = i then f x else x) = ys := by
        rw [← map_id ys, map_map]
        exact map_congr_left fun z hz => if_neg fun hzi => hu.1 (mem_map.mpr ⟨z, hz, hzi.trans hy.symm⟩)
      simp only [map_cons, if_pos hy, flatMap_cons, count_append, hmap]; omega
    · rw [show decide (y.id = i) = false from decide_eq_false hy] at hfind
      have := ih hu.2 hfind
      simp only [map_cons, if_neg hy, flatMap_cons, count_append] at this ⊢; omega

theorem EndOK.closedEnd {e : MEnd} (h : EndOK e) (i : Nat) : EndOK (closedEnd e i) := by
  have hu := h.upd i (fun y => { y with state := .closed, buffered := [], fbPending := false }) (fun _ => rfl) (fun _ => Or.inr rfl)
  refine ⟨hu.uniq, fun st hst hreg => ?_⟩
  obtain ⟨y, hy, rfl⟩ := mem_map.mp hst
  by_cases c : y.id = i
  · rw [if_pos c]
  · rw [if_neg c] at hreg ⊢
    rw [registered_closedEnd, decide_eq_true (show y.id ≠ i from c), Bool.and_true] at hreg
    exact h.clean y hy hreg

theorem bufAll_closedEnd {e : MEnd} (hu : Uniq e) {i : Nat} {st : MStream} (hfind : e.find i = some st) (t : Nat) :
    (bufAll (closedEnd e i)).count t + st.buffered.count t = (bufAll e).count t :=
  bufAll_upd hu hfind (fun y => { y with state := .closed, buffered := [], fbPending := false }) t

theorem filter_drop_empty (streams : List MStream) (p : MStream → Bool) (t : Nat)
    (h : ∀ st ∈ streams, p st = false → st.buffered = []) :
    ((streams.filter p).flatMap (·.buffered)).count t = (streams.flatMap (·.buffered)).count t := by
  induction streams with
  | nil => rfl
  | cons y ys ih =>
    have ih' := ih (fun st hst => h st (mem_cons_of_mem _ hst))
    simp only [filter_cons]
    cases hp : p y with
    | true => simp [flatMap_cons, count_append, ih']
    | false => simp [flatMap_cons, h y mem_cons_self hp, ih']

theorem EndOK.createdEnd {e : MEnd} (h : EndOK e) (i : Nat) : EndOK (createdEnd e i) := by
  refine ⟨?_, ?_⟩
  · unfold Uniq Mux.createdEnd
    simp only [map_append, map_cons, map_nil]
    rw [nodup_append]
    refine ⟨(filter_sublist.map _).nodup h.uniq, by simp, ?_⟩
    intro a ha b hb
    simp at hb; subst hb
    obtain ⟨st, hst, rfl⟩ := mem_map.mp ha
    simpa using (mem_filter.mp hst).2
  · intro st hst hr
    rw [registered_createdEnd, Bool.or_eq_false_iff] at hr
    rcases mem_append.mp hst with h1 | h1
    · exact h.clean st (mem_filter.mp h1).1 hr.1
    · simp at h1; subst h1; rfl

/-- the object `getStream` replaces was outside the table, so its buffer was empty -/
theorem bufAll_createdEnd {e : MEnd} (h : EndOK e) {i : Nat} (hreg : e.registered i = false) (t : Nat) :
    (bufAll (createdEnd e i)).count t = (bufAll e).count t := by
  simp only [bufAll, createdEnd, flatMap_append, count_append]
  have := filter_drop_empty e.streams (fun x => decide (x.id ≠ i)) t (by
    intro st hst hp
    have hid : st.id = i := by simpa using hp
    exact h.clean st hst (by rw [hid]; exact hreg))
  rw [this]; simp

theorem getStream_ok {e : MEnd} (h : EndOK e) (i : Nat) (o : Bool) :
    EndOK (getStream e i o).1 ∧ ∀ t, (bufAll (getStream e i o).1).count t = (bufAll e).count t :=
  getStream_cases e i o (P := fun r => EndOK r.1 ∧ ∀ t, (bufAll r.1).count t = (bufAll e).count t) (fun _ => ⟨h, fun _ => rfl⟩)
    (fun hreg _ => ⟨h.createdEnd i, bufAll_createdEnd h hreg⟩) (fun _ => ⟨h, fun _ => rfl⟩)

theorem getStream_found_registered (e : MEnd) (i : Nat) (o : Bool) (h : (getStream e i o).2 = true) :
    (getStream e i o).1.registered i = true :=
  getStream_cases e i o (P := fun r => r.2 = true → r.1.registered i = true) (fun hr _ => hr)
    (fun _ _ _ => by rw [registered_createdEnd]; simp) (fun _ h => nomatch h) h

structure CInv (s : Sys) : Prop where
  ends : ∀ x, EndOK (s.me x)
  cons : ∀ t, occ s t = if t < s.fresh then 1 else 0

/-- any queue capacity; the default is the model's, so that `cinv_init` by itself is `CInv {}` -/
theorem cinv_init (qcap : Nat := 8) : CInv { qcap := qcap } := by
  refine ⟨fun x => ⟨?_, ?_⟩, ?_⟩
  · cases x <;> simp [Uniq, Sys.me]
  · cases x <;> simp [Clean, Sys.me]
  · intro t; simp [occ, Sys.me, qTokens, kTokens, bufAll]

/-- no new token.  `+ 0` because `occ_put` and its like deliver the equation in this form, and to unify `occ s t + 0` with
    `occ s t` Lean unfolds `occ`, which is slow. -/
theorem CInv.same {s s' : Sys} (h : CInv s) (he : ∀ x, EndOK (s'.me x)) (hf : s'.fresh = s.fresh)
    (ho : ∀ t, occ s' t = occ s t + 0) : CInv s' :=
  ⟨he, fun t => by rw [ho t, h.cons t, hf]; rfl⟩

theorem CInv.token {s s' : Sys} (h : CInv s) (he : ∀ x, EndOK (s'.me x)) (hf : s'.fresh = s.fresh + 1)
    (ho : ∀ t, occ s' t = occ s t + [s.fresh].count t) : CInv s' := by
  refine ⟨he, fun t => ?_⟩
  rw [ho t, h.cons t, hf, count_singleton]
  by_cases h1 : t < s.fresh
  · have : (s.fresh == t) = false := by simp; omega
    simp [h1, this]; omega
  · by_cases h2 : s.fresh = t
    · subst h2; simp
    · have : ¬ t < s.fresh + 1 := by omega
      simp [h1, h2, this]

theorem cinv_open {s : Sys} (h : CInv s) (x : Side) : CInv (openStream s x).1 := by
  rw [openStream_eq]
  split
  · exact h.same (ends_setMe h.ends x ((h.ends x).of_eq rfl rfl)) rfl fun t => occ_putMe x _ t 0 rfl rfl rfl
  · rename_i hf
    -- no stream object has the new id: the new end is the one `getStream` would create for it
    have hs : (openedEnd (s.me x)).streams = (createdEnd (s.me x) ((s.me x).nextId + 1)).streams := by
      rw [openedEnd, createdEnd, filter_eq_self.mpr fun st hst => by simpa using find_none_of _ _ (by simpa using hf) st hst]
    exact h.same (ends_setMe h.ends x (((h.ends x).createdEnd _).of_eq hs rfl)) rfl fun t =>
      occ_putMe x _ t 0 rfl rfl (by simp [openedEnd, bufAll])

theorem cinv_flush {s : Sys} (h : CInv s) (x : Side) (i : Nat) (heap : Bool) : CInv (flush s x i heap).1 := by
  refine flush_cases s x i heap (P := fun r => CInv r.1) (fun _ => h) ?_ ?_ ?_
  · exact fun _ _ _ _ => h.token h.ends rfl fun t => by simp only [occ, Sys.me, count_append]; omega
  · intro st hst _
    refine h.token (fun y => ?_) rfl fun t => occ_put x _ _ t _ rfl rfl ?_
    · rw [setCh_me]
      refine ends_setMe h.ends x ?_ y
      exact (h.ends x).upd i _ (fun _ => rfl) (fun _ => Or.inl rfl)
    · rw [inCh_emit, bufAll_upd_same]
      · simp only [kTok, Option.toList_some]; omega
      · exact fun _ => rfl
  · intro st hst _ _
    refine h.token (fun y => h.ends y) rfl fun t => occ_putCh x _ t _ rfl rfl ?_
    rw [inCh_enq, qTokens_data]; dsimp only; omega

theorem cinv_consume {s : Sys} (h : CInv s) (x : Side) (i : Nat) : CInv (consume s x i) := by
  unfold consume
  cases hfind : (s.me x).find i with
  | none => exact h
  | some st =>
    refine h.same (ends_setMe h.ends x ?_) rfl fun t => occ_putMe x _ t 0 rfl rfl ?_
    · exact (h.ends x).upd i _ (fun _ => rfl) (fun _ => Or.inr rfl)
    · have := bufAll_upd (h.ends x).uniq hfind (fun y => { y with buffered := [] }) t
      simp only [count_append, count_nil] at this ⊢; omega

theorem cinv_moved {s : Sys} (h : CInv s) (x : Side) (i : Nat) : CInv (moved s x i) := by
  refine h.same (ends_setMe h.ends x ?_) rfl fun t => occ_putMe x _ t 0 rfl rfl ?_
  · exact (h.ends x).upd i _ (fun _ => rfl) (fun _ => Or.inl rfl)
  · rw [bufAll_upd_same]
    · rfl
    · exact fun _ => rfl

theorem cinv_close {s : Sys} (h : CInv s) (x : Side) (i : Nat) : CInv (closeStream s x i).1 := by
  -- whichever way the close is announced, it carries no token
  have key : ∀ st, (s.me x).find i = some st → ∀ t c, inCh c t = inCh (s.ch x) t →
      (s.retired ++ st.buffered).count t + inCh c t + (bufAll (closedEnd (s.me x) i)).count t =
        s.retired.count t + inCh (s.ch x) t + (bufAll (s.me x)).count t + 0 := by
    intro st hst t c hc
    have := bufAll_closedEnd (h.ends x).uniq hst t
    rw [count_append, hc]; omega
  have hends : ∀ g : Sys, g.ends = s.ends → ∀ y, EndOK ((g.setMe x (closedEnd (s.me x) i)).me y) := fun g hg =>
    ends_setMe (s := g) (fun y => by rw [Sys.me, hg]; exact h.ends y) x ((h.ends x).closedEnd i)
  refine closeStream_cases s x i (P := fun r => CInv r.1) (fun _ => h) (fun _ _ _ => h) ?_ ?_ ?_
  · intro st hst _ _
    refine h.same (hends _ rfl) rfl fun t => occ_putMe x _ t 0 rfl rfl ?_
    have := key st hst t _ rfl; dsimp only; omega
  · intro st hst _
    refine h.same (fun y => by rw [setCh_me]; exact hends _ rfl y) rfl fun t => occ_put x _ _ t 0 rfl rfl ?_
    exact key st hst t _ (by rw [inCh_emit]; rfl)
  · intro st hst _ _
    refine h.same (fun y => by rw [setCh_me]; exact hends _ rfl y) rfl fun t => occ_put x _ _ t 0 rfl rfl ?_
    exact key st hst t _ (by rw [inCh_enq, qTokens_close]; rfl)

/-- `s'` holds the tokens of `s` and those of `l`, and its stream tables are still in order -/
structure Acct (s s' : Sys) (l : List Nat) : Prop where
  ends : ∀ x, EndOK (s'.me x)
  fresh : s'.fresh = s.fresh
  occ : ∀ t, occ s' t = occ s t + l.count t

theorem Acct.trans {s1 s2 s3 : Sys} {l1 l2 : List Nat} (h12 : Acct s1 s2 l1) (h23 : Acct s2 s3 l2) : Acct s1 s3 (l1 ++ l2) :=
  ⟨h23.ends, h23.fresh.trans h12.fresh, fun t => by rw [h23.occ, h12.occ, count_append, Nat.add_assoc]⟩

theorem closeNote_acct {s : Sys} (he : ∀ y, EndOK (s.me y)) (x : Side) (i : Nat) : Acct s (closeNote s x i) [] := by
  unfold closeNote
  split
  · refine ⟨ends_setMe he x ((he x).upd i _ halfClose_id fun y => Or.inl (halfClose_buffered y)), rfl, fun t => ?_⟩
    refine occ_putMe x _ t 0 rfl rfl ?_
    rw [bufAll_upd_same _ _ _ halfClose_buffered]; rfl
  · exact ⟨he, rfl, fun _ => rfl⟩

theorem offer_acct {s : Sys} (he : ∀ y, EndOK (s.me y)) (x : Side) (i m : Nat) (v : Bool) : Acct s (offer s x i m v) [m] := by
  obtain ⟨gok, gb⟩ := getStream_ok (he x) i true
  refine offer_cases s x i m v (P := fun s' => Acct s s' [m]) ⟨ends_setMe he x gok, rfl, fun t => ?_⟩ ?_
  · refine occ_putMe x _ t _ rfl rfl ?_
    rw [gb t]; simp only [count_append]; omega
  · intro st hfound hfind hcl
    have hreg := getStream_found_registered (s.me x) i true hfound
    refine ⟨ends_setMe he x ⟨?_, ?_⟩, rfl, fun t => occ_putMe x _ t _ rfl rfl ?_⟩
    · exact uniq_upd gok.uniq i _ fun _ => rfl
    · -- the stream that takes the message is in the table
      intro z hz hr
      obtain ⟨y0, hy0, rfl⟩ := mem_map.mp hz
      by_cases c : y0.id = i
      · rw [if_pos c] at hr
        rw [show ({ y0 with buffered := y0.buffered ++ [m], fbPending := y0.fbPending || v } : MStream).id = i from c] at hr
        exact absurd (hreg.symm.trans hr) (by simp)
      · rw [if_neg c] at hr ⊢; exact gok.clean y0 hy0 hr
    · have := bufAll_upd gok.uniq hfind (fun y => { y with buffered := y.buffered ++ [m], fbPending := y.fbPending || v }) t
      rw [count_append] at this
      rw [← gb t]; dsimp only; omega

theorem drain_acct (x : Side) : ∀ (q : List QEl) (s : Sys), (∀ y, EndOK (s.me y)) → Acct s (drain q s x) (qTokens q) := by
  intro q
  induction q with
  | nil => exact fun s he => ⟨he, rfl, fun _ => rfl⟩
  | cons el rest ih =>
    intro s he
    unfold drain
    cases hc : el.isClose with
    | true =>
      have h1 := closeNote_acct he x el.sid
      have := h1.trans (ih _ h1.ends)
      rwa [qTokens_cons, hc, if_pos rfl]
    | false =>
      have h1 := offer_acct he x el.sid el.msg false
      have := h1.trans (ih _ h1.ends)
      rwa [qTokens_cons, hc, if_neg (by simp)]

theorem CInv.take {s : Sys} (h : CInv s) (z : Side) (c : Chan) (l : List Nat) (hl : ∀ t, inCh (s.ch z) t = inCh c t + l.count t)
    {s' : Sys} (a : Acct (s.setCh z c) s' l) : CInv s' := by
  refine ⟨a.ends, fun t => ?_⟩
  have := occ_of (s := s.setCh z c) (s' := s) z t (l.count t) (setCh_ch_other _ _ _ _ (peer_ne z)).symm rfl
    (by rw [setCh_ch_same, setCh_me, hl t]; show _ = count t s.retired + _ + _ + _; omega)
  rw [a.occ, a.fresh, ← this]; exact h.cons t

theorem cinv_deliver {s : Sys} (h : CInv s) (x : Side) : CInv (deliver s x).1 := by
  have he : ∀ c y, EndOK ((s.setCh x.peer c).me y) := fun _ => h.ends
  refine deliver_cases s x (P := CInv) h ?_ ?_ ?_
  · intro rest hk
    refine h.take x.peer _ (qTokens (s.ch x.peer).q) (fun t => ?_) (drain_acct x _ _ (he _))
    rw [inCh_pop hk]; simp only [inCh, kTok, qTokens, Option.toList_none, count_nil, filter_nil, map_nil]; omega
  · exact fun i rest hk => h.take x.peer _ [] (inCh_pop hk) (closeNote_acct (he _) x i)
  · exact fun i m rest hk => h.take x.peer _ [m] (inCh_pop hk) (offer_acct (he _) x i m true)

theorem cinv_step {s : Sys} (h : CInv s) (op : Op) : CInv (step s op) := by
  cases op with
  | open_ x => exact cinv_open h x
  | flush x i heap => exact cinv_flush h x i heap
  | close x i => exact cinv_close h x i
  | deliver x => exact cinv_deliver h x
  | consume x i => exact cinv_consume h x i
  | moved x i => exact cinv_moved h x i

theorem cinv_run (ops : List Op) : ∀ s, CInv s → CInv (run s ops) :=
  fun _ h => List.foldlRecOn ops step h fun _ hb op _ => cinv_step hb op

end Mux

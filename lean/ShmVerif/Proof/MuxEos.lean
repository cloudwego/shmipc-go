import ShmVerif.Proof.MuxInv
/-!
  The invariant `Str` of `Proof/MuxInv` (one FIFO per direction and stream id, the close notification its last element) read
  back in terms of `qdata`, `kdata` and of where the close notification sits (`closeInQ`, `PendClose`, `afterCloseQ`,
  `afterCloseK`): per-stream order, "nothing of the stream behind its close notification", "once the peer has consumed the
  notification everything flushed has arrived".
-/
namespace Mux
open List

def closeInQ (j : Nat) (q : List QEl) : Prop := ∃ el ∈ q, el.sid = j ∧ el.isClose = true
def PendClose (j : Nat) (c : Chan) : Prop := closeInQ j c.q ∨ Ev.close j ∈ c.k
def afterCloseK (j : Nat) (k : List Ev) : List Ev := k.dropWhile (fun ev => ev != Ev.close j)
def afterCloseQ (j : Nat) (q : List QEl) : List QEl := q.dropWhile (fun el => !(el.sid == j && el.isClose))

theorem dropWhile_nil_iff {α : Type} (p : α → Bool) : ∀ l : List α, l.dropWhile p = [] ↔ ∀ x ∈ l, p x = true
  | [] => by simp
  | a :: r => by
    by_cases h : p a = true
    · rw [dropWhile_cons_of_pos h, dropWhile_nil_iff p r]; simp [h]
    · rw [dropWhile_cons_of_neg h]; simp [h]

theorem afterCloseK_nil_iff (j : Nat) (k : List Ev) : afterCloseK j k = [] ↔ Ev.close j ∉ k := by
  unfold afterCloseK
  rw [dropWhile_nil_iff]
  constructor
  · intro h hm; simpa using h _ hm
  · intro h ev hev; simp only [bne_iff_ne, ne_eq]; intro e; exact h (e ▸ hev)

theorem afterCloseQ_nil_iff (j : Nat) (q : List QEl) : afterCloseQ j q = [] ↔ ¬ closeInQ j q := by
  unfold afterCloseQ closeInQ
  rw [dropWhile_nil_iff]
  constructor
  · rintro h ⟨el, hel, h1, h2⟩
    simpa [h1, h2] using h el hel
  · intro h el hel
    cases hb : (el.sid == j && el.isClose) with
    | false => rfl
    | true =>
      simp only [Bool.and_eq_true, beq_iff_eq] at hb
      exact absurd ⟨el, hel, hb.1, hb.2⟩ h

theorem afterCloseK_cons_ne (j : Nat) (ev : Ev) (r : List Ev) (h : ev ≠ Ev.close j) :
    afterCloseK j (ev :: r) = afterCloseK j r := by
  unfold afterCloseK
  rw [dropWhile_cons_of_pos]
  simpa using h

theorem afterCloseK_cons_eq (j : Nat) (r : List Ev) : afterCloseK j (Ev.close j :: r) = Ev.close j :: r := by
  unfold afterCloseK
  rw [dropWhile_cons_of_neg]
  simp

theorem closeInQ_append (j : Nat) (q l : List QEl) : closeInQ j (q ++ l) ↔ closeInQ j q ∨ closeInQ j l := by
  simp only [closeInQ, mem_append, or_and_right, exists_or]

theorem closeInQ_single (j i m : Nat) (c : Bool) : closeInQ j [{ sid := i, msg := m, isClose := c }] ↔ (i = j ∧ c = true) := by
  unfold closeInQ; simp

theorem flush_closeSent (s : Sys) (z : Side) (i : Nat) (heap : Bool) : (flush s z i heap).1.closeSent = s.closeSent :=
  flush_cases s z i heap (P := fun r => r.1.closeSent = s.closeSent) (fun _ => rfl) (fun _ _ _ _ => rfl) (fun _ _ _ => rfl)
    (fun _ _ _ _ => rfl)

theorem issued_data (x : Side) (j : Nat) (sent : List (Side × Nat × Nat)) (cs : List (Side × Nat)) :
    (issued x j sent cs).filterMap id = tagOf x j sent := by
  unfold issued; split <;> simp [filterMap_map]

theorem issued_none_last {x : Side} {j : Nat} {sent : List (Side × Nat × Nat)} {cs : List (Side × Nat)} :
    ∀ {a b : List (Option Nat)}, a ++ none :: b = issued x j sent cs → b = [] := by
  unfold issued
  generalize tagOf x j sent = d
  induction d with
  | nil => intro a b h; split at h <;> cases a <;> simp_all
  | cons m d ih =>
    intro a b h
    cases a with
    | nil => simp at h
    | cons y a => simp only [cons_append, map_cons, cons.injEq] at h; exact ih h.2

/-- what follows the first close element of `j` in the queue follows a `none` among the items of `j` -/
theorem afterCloseQ_split (j : Nat) (q : List QEl) :
    afterCloseQ j q = [] ∨ ∃ a el r, afterCloseQ j q = el :: r ∧ el.isClose = true ∧ qItems j q = a ++ none :: qItems j r := by
  induction q with
  | nil => exact Or.inl rfl
  | cons el q ih =>
    by_cases h : (el.sid == j && el.isClose) = true
    · have h' := h; simp only [Bool.and_eq_true, beq_iff_eq] at h'
      refine Or.inr ⟨[], el, q, by rw [afterCloseQ, dropWhile_cons_of_neg (by simp [h'.1, h'.2])], h'.2, ?_⟩
      simp [qItems_cons, QEl.ev, h'.1, h'.2, Ev.item]
    · have e : afterCloseQ j (el :: q) = afterCloseQ j q := by
        rw [afterCloseQ, dropWhile_cons_of_pos (by rw [Bool.not_eq_true] at h; rw [h]; rfl)]; rfl
      rw [e]
      rcases ih with ih | ⟨a, el', r, h1, h2, h3⟩
      · exact Or.inl ih
      · exact Or.inr ⟨(el.ev.item j).toList ++ a, el', r, h1, h2, by rw [qItems_cons, h3, append_assoc]⟩

theorem afterCloseK_split (j : Nat) (k : List Ev) :
    afterCloseK j k = [] ∨ ∃ a r, afterCloseK j k = Ev.close j :: r ∧ kItems j k = a ++ none :: kItems j r := by
  induction k with
  | nil => exact Or.inl rfl
  | cons ev k ih =>
    by_cases h : ev = Ev.close j
    · subst h
      exact Or.inr ⟨[], k, afterCloseK_cons_eq j k, by simp [kItems_cons, Ev.item]⟩
    · rw [afterCloseK_cons_ne j ev k h]
      rcases ih with ih | ⟨a, r, h1, h2⟩
      · exact Or.inl ih
      · exact Or.inr ⟨(ev.item j).toList ++ a, r, h1, by rw [kItems_cons, h2, append_assoc]⟩

section
variable {s : Sys} {x : Side} {j : Nat}

theorem Str.order (h : Str j (view s x j)) :
    tagOf x.peer j s.arrived ++ qdata j (s.ch x).q ++ kdata j (s.ch x).k = tagOf x j s.sent := by
  obtain ⟨pre, h1, (h2 : pre ++ qItems j (s.ch x).q ++ kItems j (s.ch x).k = issued x j s.sent s.closeSent)⟩ := h.fifo
  have := congrArg (filterMap id) h2
  rwa [filterMap_append, filterMap_append, h1, qItems_data, kItems_data, issued_data] at this

theorem Str.behind_close (h : Str j (view s x j)) :
    qdata j (afterCloseQ j (s.ch x).q) = [] ∧ kdata j (afterCloseK j (s.ch x).k) = [] ∧
    (closeInQ j (s.ch x).q → kdata j (s.ch x).k = []) := by
  obtain ⟨pre, _, (h2 : pre ++ qItems j (s.ch x).q ++ kItems j (s.ch x).k = issued x j s.sent s.closeSent)⟩ := h.fifo
  refine ⟨?_, ?_, ?_⟩
  · rcases afterCloseQ_split j (s.ch x).q with e | ⟨a, el, r, e, hc, hq⟩
    · rw [e]; rfl
    · rw [hq] at h2
      have : qItems j r ++ kItems j (s.ch x).k = [] := issued_none_last (a := pre ++ a) (by simpa using h2)
      rw [e, ← qItems_data, qItems_cons, (append_eq_nil_iff.mp this).1]
      simp [QEl.ev, hc, Ev.item]
  · rcases afterCloseK_split j (s.ch x).k with e | ⟨a, r, e, hk⟩
    · rw [e]; rfl
    · rw [hk] at h2
      have : kItems j r = [] := issued_none_last (a := pre ++ qItems j (s.ch x).q ++ a) (by simpa using h2)
      rw [e, kdata_cons_close, ← kItems_data, this]; rfl
  · intro hc
    obtain ⟨a, b, hq⟩ := append_of_mem (mem_qItems_none.mpr hc)
    rw [hq] at h2
    have : b ++ kItems j (s.ch x).k = [] := issued_none_last (a := pre ++ a) (by simpa using h2)
    rw [← kItems_data, (append_eq_nil_iff.mp this).2]; rfl

theorem Str.eos_after_data (h : Str j (view s x j)) (hc : (x, j) ∈ s.closeSent) (hp : ¬ PendClose j (s.ch x)) :
    tagOf x.peer j s.arrived = tagOf x j s.sent := by
  obtain ⟨pre, h1, (h2 : pre ++ qItems j (s.ch x).q ++ kItems j (s.ch x).k = issued x j s.sent s.closeSent)⟩ := h.fifo
  -- the notification was issued and is not in flight: the peer has taken it, and it is the last thing issued
  have hn : none ∈ pre := by
    have : none ∈ pre ++ qItems j (s.ch x).q ++ kItems j (s.ch x).k := by rw [h2]; exact mem_issued_none.mpr hc
    simp only [mem_append, mem_qItems_none, mem_kItems_none] at this
    exact (or_assoc.mp this).resolve_right hp
  obtain ⟨a, b, hpre⟩ := append_of_mem hn
  rw [hpre] at h2
  have : b ++ qItems j (s.ch x).q ++ kItems j (s.ch x).k = [] := issued_none_last (a := a) (by simpa using h2)
  have hq := (append_eq_nil_iff.mp (append_eq_nil_iff.mp this).1).2
  have ho := h.order
  rw [← qItems_data, ← kItems_data, hq, (append_eq_nil_iff.mp this).2] at ho
  simpa using ho

end

end Mux

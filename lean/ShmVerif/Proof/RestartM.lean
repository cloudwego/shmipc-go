import ShmVerif.Model.Restart
import ShmVerif.Proof.Lists
/-! Invariant of the session-manager side of the hot-restart / healing model, for every operation sequence. -/
namespace Restart
open List

theorem Manager.obj_setObj (m : Manager) (o x : Nat) (p : PoolObj) :
    (m.setObj o p).obj x = if x = o ∧ o < m.objs.length then p else m.obj x := by
  simp only [Manager.obj, Manager.setObj, List.getD_eq_getElem?_getD, List.getElem?_set]
  by_cases h : o = x
  · subst h; by_cases hl : o < m.objs.length <;> simp [hl]
  · simp [h, Ne.symm h]

/-- `m'` is `m` except for `alive` / `closes` of its pool objects: what closing pool objects (`closeObj`, `closeObjs`) and
    losing a session (`lose`) leave alone.  The later state is the second argument, each field reads `m'.x = m.x`. -/
structure SameShape (m m' : Manager) : Prop where
  state : m'.state = m.state
  epoch : m'.epoch = m.epoch
  pools : m'.pools = m.pools
  reserve : m'.reserve = m.reserve
  checker : m'.checker = m.checker
  watchers : m'.watchers = m.watchers
  cancelled : m'.cancelled = m.cancelled
  closed : m'.closed = m.closed
  nextSess : m'.nextSess = m.nextSess
  acks : m'.acks = m.acks
  created : m'.created = m.created
  olen : m'.objs.length = m.objs.length
  oep : ∀ x, (m'.obj x).epoch = (m.obj x).epoch
  osess : ∀ x, (m'.obj x).sess = (m.obj x).sess

theorem SameShape.refl (m : Manager) : SameShape m m :=
  ⟨rfl, rfl, rfl, rfl, rfl, rfl, rfl, rfl, rfl, rfl, rfl, rfl, fun _ => rfl, fun _ => rfl⟩

theorem SameShape.trans {a b c : Manager} (h1 : SameShape a b) (h2 : SameShape b c) : SameShape a c :=
  ⟨h2.state.trans h1.state, h2.epoch.trans h1.epoch, h2.pools.trans h1.pools, h2.reserve.trans h1.reserve,
   h2.checker.trans h1.checker, h2.watchers.trans h1.watchers, h2.cancelled.trans h1.cancelled, h2.closed.trans h1.closed,
   h2.nextSess.trans h1.nextSess, h2.acks.trans h1.acks, h2.created.trans h1.created, h2.olen.trans h1.olen,
   fun x => (h2.oep x).trans (h1.oep x), fun x => (h2.osess x).trans (h1.osess x)⟩

theorem setObj_same (m : Manager) (o : Nat) (p : PoolObj) (he : p.epoch = (m.obj o).epoch) (hs : p.sess = (m.obj o).sess) :
    SameShape m (m.setObj o p) := by
  refine ⟨rfl, rfl, rfl, rfl, rfl, rfl, rfl, rfl, rfl, rfl, rfl, List.length_set, ?_, ?_⟩ <;>
  · intro x
    rw [Manager.obj_setObj]
    split
    · rename_i h; rw [h.1]; assumption
    · rfl

theorem closeObj_same (m : Manager) (o : Nat) : SameShape m (m.closeObj o) := setObj_same m o _ rfl rfl

theorem closeObjs_same (os : List Nat) (m : Manager) : SameShape m (m.closeObjs os) :=
  List.foldlRecOn os Manager.closeObj (SameShape.refl m) fun b hb o _ => hb.trans (closeObj_same b o)

structure MInv (m : Manager) : Prop where
  /-- the checkHotRestart goroutine is alive exactly during a hand-over -/
  chk : m.checker = true ↔ m.state = .hot
  /-- one watcher per session index -/
  wlen : m.watchers.length = m.pools.length
  /-- every session index has a pool object that exists -/
  pv : ∀ o ∈ m.pools, o < m.objs.length
  /-- a parked entry names a session index and a pool object that exist -/
  rv : ∀ r ∈ m.reserve, r.1 < m.pools.length ∧ r.2 < m.objs.length
  /-- no session index is swapped twice in a round: `reserve` as long as `pools` means every index has been swapped -/
  rnd : (m.reserve.map (·.1)).Nodup
  /-- during a hand-over the pool of a swapped index holds a session of the announced epoch -/
  ep : m.state = .hot → ∀ r ∈ m.reserve, (m.obj (m.pools.getD r.1 0)).epoch = m.epoch
  /-- Close returns only after cancellation and after every watcher has exited: nothing moves afterwards -/
  cd : m.closed = true → m.cancelled = true ∧ m.watchers.all (· == .done) = true

theorem minv_same {m m' : Manager} (s : SameShape m m') (h : MInv m) : MInv m' := by
  obtain ⟨chk, wlen, pv, rv, rnd, ep, cd⟩ := h
  refine ⟨?_, ?_, ?_, ?_, ?_, ?_, ?_⟩
  · rwa [s.checker, s.state]
  · rwa [s.watchers, s.pools]
  · rwa [s.pools, s.olen]
  · rwa [s.reserve, s.pools, s.olen]
  · rwa [s.reserve]
  · rw [s.state, s.reserve, s.pools, s.epoch]; exact fun h1 r hr => (s.oep _).trans (ep h1 r hr)
  · rwa [s.closed, s.cancelled, s.watchers]

theorem minv_init (n : Nat) : MInv (Manager.init n) := by
  unfold Manager.init
  refine ⟨by simp, by simp, ?_, by simp, by simp, by simp, by simp⟩
  intro o ho; simp at ho ⊢; exact ho

theorem MInv.open_of_running {m : Manager} (h : MInv m) (hc : m.cancelled = false) : m.closed = false :=
  Bool.eq_false_iff.mpr fun hcl => Bool.noConfusion (hc.symm.trans (h.cd hcl).1)

/-- handleSessionManagerHotRestart, first phase. The first event of a round closes the pools parked by the last round and
    opens the round; later events of the round find it open. -/
def Manager.enterHot (m : Manager) (e : Nat) : Manager :=
  if m.state ≠ .hot then
    { (m.closeObjs (m.reserve.map (·.2))) with state := .hot, epoch := e, reserve := [], checker := true }
  else m

/-- second phase: session index `id` gets a fresh pool object, the old one, `old`, is parked -/
def Manager.swap (m : Manager) (id old : Nat) : Manager :=
  { m with objs := m.objs ++ [{ sess := m.nextSess, epoch := m.epoch }], nextSess := m.nextSess + 1,
           created := m.created ++ [(id, m.epoch, m.nextSess)],
           reserve := m.reserve ++ [(id, old)], pools := m.pools.set id m.objs.length }

theorem Manager.hotRestart_eq (m : Manager) (id e : Nat) (conn : Bool) :
    m.hotRestart id e conn =
      if m.cancelled then m else
      if m.state = .hot ∧ m.epoch ≠ e then m else
      if ((m.enterHot e).reserve.find? (·.1 = id)).isSome then m.enterHot e
      else if !conn then m.enterHot e
      else match (m.enterHot e).pools[id]? with
        | none => m.enterHot e
        | some old => (m.enterHot e).swap id old := rfl

theorem Manager.enterHot_of_hot {m : Manager} (e : Nat) (h : m.state = .hot) : m.enterHot e = m := by
  simp [Manager.enterHot, h]

theorem Manager.enterHot_state (m : Manager) (e : Nat) : (m.enterHot e).state = .hot := by
  unfold Manager.enterHot; split
  · rfl
  · rename_i h; simpa using h

theorem Manager.enterHot_frame (m : Manager) (e : Nat) :
    (m.enterHot e).pools = m.pools ∧ (m.enterHot e).cancelled = m.cancelled ∧ (m.enterHot e).closed = m.closed ∧
    (m.enterHot e).acks = m.acks := by
  unfold Manager.enterHot; split
  · have ss := closeObjs_same (m.reserve.map (·.2)) m
    exact ⟨ss.pools, ss.cancelled, ss.closed, ss.acks⟩
  · exact ⟨rfl, rfl, rfl, rfl⟩

theorem minv_enterHot {m : Manager} (h : MInv m) (e : Nat) (hc : m.closed = false) : MInv (m.enterHot e) := by
  unfold Manager.enterHot; split
  · have ss := closeObjs_same (m.reserve.map (·.2)) m
    have h' := minv_same ss h
    exact ⟨⟨fun _ => rfl, fun _ => rfl⟩, h'.wlen, h'.pv, (fun _ hr => nomatch hr), List.nodup_nil, (fun _ _ hr => nomatch hr),
      fun h1 => Bool.noConfusion (hc.symm.trans (ss.closed.symm.trans h1))⟩
  · exact h

theorem minv_swap {m : Manager} (h : MInv m) (id old : Nat) (hc : m.closed = false) (hold : m.pools[id]? = some old)
    (hnew : ∀ r ∈ m.reserve, r.1 ≠ id) : MInv (m.swap id old) := by
  obtain ⟨chk, wlen, pv, rv, rnd, ep, cd⟩ := h
  have hid : id < m.pools.length := (List.getElem?_eq_some_iff.mp hold).1
  have hold' : old < m.objs.length := pv old (List.mem_of_getElem? hold)
  unfold Manager.swap
  refine ⟨chk, by simpa using wlen, ?_, ?_, ?_, ?_, fun h1 => Bool.noConfusion (hc.symm.trans h1)⟩
  · intro o ho
    simp only [List.length_append, List.length_cons, List.length_nil]
    rcases List.mem_or_eq_of_mem_set ho with h2 | h2
    · have := pv o h2; omega
    · omega
  · intro r hr
    simp only [List.length_set, List.length_append, List.length_cons, List.length_nil]
    rcases List.mem_append.mp hr with h2 | h2
    · have := rv r h2; exact ⟨this.1, by omega⟩
    · simp at h2; subst h2; exact ⟨hid, by omega⟩
  · simp only [List.map_append, List.map_cons, List.map_nil]
    rw [List.nodup_append]
    refine ⟨rnd, by simp, ?_⟩
    intro a ha b hb
    simp at hb; subst hb
    obtain ⟨r, hr, hra⟩ := List.mem_map.mp ha
    intro hab; exact hnew r hr (hra.trans hab)
  · intro hs r hr
    simp only [Manager.obj, List.getD_eq_getElem?_getD]
    rcases List.mem_append.mp hr with h2 | h2
    · -- an index swapped earlier: its pool entry and that object are untouched
      have hlt : m.pools.getD r.1 0 < m.objs.length := pv _ (getD_mem _ _ _ (rv r h2).1)
      have := ep hs r h2
      simp only [Manager.obj, List.getD_eq_getElem?_getD] at this hlt
      rw [List.getElem?_set_ne (fun hh => hnew r h2 hh.symm), List.getElem?_append_left hlt]
      exact this
    · simp at h2; subst h2
      simp [hid]

/-- when a restart event swaps a pool: the manager is open, the event belongs to the round (or opens one), the new server is
    reachable and the index has not been swapped in this round -/
theorem Manager.hotRestart_swaps {m : Manager} {id e : Nat} (hc : m.cancelled = false) (he : m.state = .hot → m.epoch = e)
    (hid : id < m.pools.length) (hnew : ∀ r ∈ (m.enterHot e).reserve, r.1 ≠ id) :
    m.hotRestart id e true = (m.enterHot e).swap id m.pools[id] := by
  have hfind : ((m.enterHot e).reserve.find? (·.1 = id)).isSome = false := by
    rw [Bool.eq_false_iff, Ne, List.find?_isSome]; rintro ⟨r, hr, hri⟩; exact hnew r hr (by simpa using hri)
  have hold : (m.enterHot e).pools[id]? = some m.pools[id] := by rw [(m.enterHot_frame e).1]; exact List.getElem?_eq_getElem hid
  rw [Manager.hotRestart_eq, if_neg (by simp [hc]), if_neg (fun h => h.2 (he h.1)), hfind]
  simp only [hold]; rfl

theorem minv_hotRestart {m : Manager} (h : MInv m) (id e : Nat) (conn : Bool) : MInv (m.hotRestart id e conn) := by
  rw [Manager.hotRestart_eq]
  by_cases hcan : m.cancelled = true
  · rw [if_pos hcan]; exact h
  by_cases hfor : m.state = .hot ∧ m.epoch ≠ e
  · rw [if_neg hcan, if_pos hfor]; exact h
  have hcl : m.closed = false := h.open_of_running (by simpa using hcan)
  have h1 := minv_enterHot h e hcl
  rw [if_neg hcan, if_neg hfor]
  by_cases hfind : ((m.enterHot e).reserve.find? (·.1 = id)).isSome = true
  · rw [if_pos hfind]; exact h1
  rw [if_neg hfind]
  cases conn with
  | false => exact h1
  | true =>
    cases hold : (m.enterHot e).pools[id]? with
    | none => exact h1
    | some old =>
      refine minv_swap h1 id old ((m.enterHot_frame e).2.2.1.trans hcl) hold fun r hr hri => ?_
      exact hfind (List.find?_isSome.mpr ⟨r, hr, by simp [hri]⟩)

theorem minv_tick {m : Manager} (h : MInv m) : MInv m.tick := by
  unfold Manager.tick
  by_cases hc : (!m.checker) = true
  · rw [if_pos hc]; exact h
  rw [if_neg hc]
  by_cases hl : m.reserve.length = m.pools.length
  · rw [if_pos hl]
    exact ⟨⟨nofun, nofun⟩, h.wlen, h.pv, h.rv, h.rnd, nofun, h.cd⟩
  · rw [if_neg hl]; exact h

theorem minv_timeout {m : Manager} (h : MInv m) : MInv m.timeout := by
  unfold Manager.timeout
  split
  · exact h
  · have ss := closeObjs_same (m.reserve.map (·.2)) m
    have h' := minv_same ss h
    exact ⟨⟨nofun, nofun⟩, h'.wlen, h'.pv, (fun _ hr => nomatch hr), List.nodup_nil, nofun, h'.cd⟩

theorem minv_lose {m : Manager} (h : MInv m) (o : Nat) : MInv (m.lose o) := by
  unfold Manager.lose
  split
  · exact minv_same (setObj_same m o _ rfl rfl) h
  · exact h

/-- the rebuild: pool object `o` gets a fresh session of the manager's current epoch -/
def Manager.rebuild (m : Manager) (id o : Nat) : Manager :=
  { (m.setObj o { (m.obj o) with sess := m.nextSess, epoch := m.epoch, alive := true }) with
    nextSess := m.nextSess + 1, created := m.created ++ [(id, m.epoch, m.nextSess)] }

/-- Everything a watcher step can be. `move`: back to the loop top or out of the loop, nothing but its program counter
    changes (never into the rebuild wait). -/
inductive WStep (m : Manager) (id : Nat) (fire conn : Bool) : Manager → Prop
  | idle : WStep m id fire conn m
  | move (pc pc' : WPc) : m.watchers[id]? = some pc → pc ≠ .done → (∀ o, pc' ≠ .timer o) → WStep m id fire conn (m.setW id pc')
  | lost (o : Nat) : m.watchers[id]? = some (.sel o) → (m.obj o).alive = false → m.state ≠ .hot →
      WStep m id fire conn ((m.closeObj o).setW id (.timer o))
  | rebuilt (o cur : Nat) (pc' : WPc) : m.watchers[id]? = some (.timer o) → fire = true → conn = true → m.pools[id]? = some cur →
      (m.obj cur).epoch = (m.obj o).epoch → (∀ o, pc' ≠ .timer o) → WStep m id fire conn ((m.rebuild id o).setW id pc')

theorem Manager.wTop_eq (m : Manager) (id : Nat) : ∃ pc', (∀ o, pc' ≠ .timer o) ∧ m.wTop id = m.setW id pc' := by
  unfold Manager.wTop
  by_cases hs : m.state = .hot
  · exact ⟨.sleep, fun _ => nofun, if_pos hs⟩
  · rw [if_neg hs]
    cases m.pools[id]? with
    | none => exact ⟨.done, fun _ => nofun, rfl⟩
    | some o => exact ⟨.sel o, fun _ => nofun, rfl⟩

/-- `watch` on a known program counter: these four equations are the only proofs that unfold it -/
theorem Manager.watch_idle {m : Manager} {id : Nat} {f c x : Bool}
    (hw : m.watchers[id]? = none ∨ m.watchers[id]? = some .done) : m.watch id f c x = m := by
  unfold Manager.watch; rcases hw with hw | hw <;> rw [hw]

theorem Manager.watch_top {m : Manager} {id : Nat} {f c x : Bool}
    (hw : m.watchers[id]? = some .start ∨ m.watchers[id]? = some .sleep) : m.watch id f c x = m.wTop id := by
  unfold Manager.watch; rcases hw with hw | hw <;> rw [hw]

theorem Manager.watch_sel {m : Manager} {id o : Nat} {f c x : Bool} (hw : m.watchers[id]? = some (.sel o)) :
    m.watch id f c x =
      if !(m.obj o).alive ∧ !(m.cancelled ∧ x) then
        if m.state = .hot then m.wTop id else (m.closeObj o).setW id (.timer o)
      else if m.cancelled then m.setW id .done else m := by
  unfold Manager.watch; rw [hw]

theorem Manager.watch_timer {m : Manager} {id o : Nat} {f c x : Bool} (hw : m.watchers[id]? = some (.timer o)) :
    m.watch id f c x =
      if f ∧ !(m.cancelled ∧ x) then
        match m.pools[id]? with
        | none => m.setW id .done
        | some cur =>
          if (m.obj cur).epoch ≠ (m.obj o).epoch then m.wTop id
          else if c then (m.rebuild id o).wTop id else m
      else if m.cancelled then m.setW id .done else m := by
  unfold Manager.watch; rw [hw]; rfl

theorem Manager.watch_wstep (m : Manager) (id : Nat) (fire conn ctx : Bool) : WStep m id fire conn (m.watch id fire conn ctx) := by
  cases hpc : m.watchers[id]? with
  | none => rw [Manager.watch_idle (.inl hpc)]; exact .idle
  | some pc =>
  -- the two ways out of a wait that are common to both selects: back to the loop top, or out on cancellation
  have top : pc ≠ .done → WStep m id fire conn (m.wTop id) := by
    intro h2; obtain ⟨pc', h3, h4⟩ := m.wTop_eq id; rw [h4]; exact .move pc pc' hpc h2 h3
  have out : pc ≠ .done → WStep m id fire conn (if m.cancelled then m.setW id .done else m) := by
    intro h2
    by_cases hc : m.cancelled = true
    · rw [if_pos hc]; exact .move pc .done hpc h2 (fun _ => nofun)
    · rw [if_neg hc]; exact .idle
  cases pc with
  | start => rw [Manager.watch_top (.inl hpc)]; exact top nofun
  | sleep => rw [Manager.watch_top (.inr hpc)]; exact top nofun
  | done => rw [Manager.watch_idle (.inr hpc)]; exact .idle
  | sel o =>
    rw [Manager.watch_sel hpc]
    by_cases hd : (!(m.obj o).alive ∧ !(m.cancelled ∧ ctx))
    · rw [if_pos hd]
      by_cases hs : m.state = .hot
      · rw [if_pos hs]; exact top nofun
      · rw [if_neg hs]; exact .lost o hpc (by simpa using hd.1) hs
    · rw [if_neg hd]; exact out nofun
  | timer o =>
    rw [Manager.watch_timer hpc]
    by_cases hf : (fire ∧ !(m.cancelled ∧ ctx))
    · rw [if_pos hf]
      cases hcur : m.pools[id]? with
      | none => exact .move _ .done hpc nofun (fun _ => nofun)
      | some cur =>
        show WStep m id fire conn (if _ then _ else _)
        by_cases hep : (m.obj cur).epoch ≠ (m.obj o).epoch
        · rw [if_pos hep]; exact top nofun
        · rw [if_neg hep]
          cases conn with
          | false => exact .idle
          | true =>
            obtain ⟨pc', h3, h4⟩ := (m.rebuild id o).wTop_eq id
            exact h4 ▸ .rebuilt o cur pc' hpc hf.1 rfl hcur (Decidable.not_not.mp hep) h3
    · rw [if_neg hf]; exact out nofun

theorem w_setW {m : Manager} {id : Nat} (h : id < m.watchers.length) (pc : WPc) : (m.setW id pc).watchers[id]? = some pc := by
  simp [Manager.setW, h]

theorem closeObj_dead {m : Manager} {o x : Nat} (h : (m.obj x).alive = false ∨ x = o ∧ o < m.objs.length) :
    ((m.closeObj o).obj x).alive = false := by
  rw [Manager.closeObj, Manager.obj_setObj]
  split
  · rfl
  · rename_i hne; exact h.resolve_right hne

theorem closeObjs_dead (os : List Nat) : ∀ {m : Manager} {x : Nat},
    (m.obj x).alive = false ∨ x ∈ os ∧ x < m.objs.length → ((m.closeObjs os).obj x).alive = false := by
  induction os with
  | nil => exact fun h => h.resolve_right fun h => nomatch h.1
  | cons o rest ih =>
    intro m x h
    refine ih (m := m.closeObj o) ?_
    rcases h with h | ⟨hm, hl⟩
    · exact .inl (closeObj_dead (.inl h))
    · rcases List.mem_cons.mp hm with h3 | h3
      · exact .inl (closeObj_dead (.inr ⟨h3, h3 ▸ hl⟩))
      · exact .inr ⟨h3, (closeObj_same m o).olen ▸ hl⟩

theorem minv_setW {m : Manager} (h : MInv m) (id : Nat) (pc : WPc) (hc : m.closed = false) : MInv (m.setW id pc) :=
  ⟨h.chk, by simpa [Manager.setW] using h.wlen, h.pv, h.rv, h.rnd, h.ep, fun h1 => Bool.noConfusion (hc.symm.trans h1)⟩

theorem minv_rebuild {m : Manager} (h : MInv m) (id o : Nat) : MInv (m.rebuild id o) := by
  refine ⟨h.chk, h.wlen, ?_, ?_, h.rnd, ?_, h.cd⟩
  · intro x hx; simpa [Manager.rebuild, Manager.setObj] using h.pv x hx
  · intro r hr; simpa [Manager.rebuild, Manager.setObj] using h.rv r hr
  · intro hs r hr
    -- either the rebuilt object, which gets the manager's epoch, or one that is left alone
    show ((m.setObj o _).obj _).epoch = m.epoch
    rw [Manager.obj_setObj]
    split
    · rfl
    · exact h.ep hs r hr

theorem MInv.open_of_watcher {m : Manager} (h : MInv m) {id : Nat} {pc : WPc} (hpc : m.watchers[id]? = some pc)
    (hne : pc ≠ .done) : m.closed = false :=
  Bool.eq_false_iff.mpr fun hc =>
    hne (by simpa using List.all_eq_true.mp (h.cd hc).2 pc (List.mem_of_getElem? hpc))

theorem minv_watch {m : Manager} (h : MInv m) (id : Nat) (fire conn ctx : Bool) : MInv (m.watch id fire conn ctx) := by
  have hw := m.watch_wstep id fire conn ctx
  generalize m.watch id fire conn ctx = m' at hw ⊢
  cases hw with
  | idle => exact h
  | move pc pc' hpc hne => exact minv_setW h id pc' (h.open_of_watcher hpc hne)
  | lost o hpc =>
    have ss := closeObj_same m o
    exact minv_setW (minv_same ss h) id _ (ss.closed.trans (h.open_of_watcher hpc (by simp)))
  | rebuilt o cur pc' hpc => exact minv_setW (minv_rebuild h id o) id pc' (h.open_of_watcher hpc (by simp))

theorem minv_cancel {m : Manager} (h : MInv m) : MInv m.cancel :=
  ⟨h.chk, h.wlen, h.pv, h.rv, h.rnd, h.ep, fun hc => ⟨rfl, (h.cd hc).2⟩⟩

theorem minv_finishClose {m : Manager} (h : MInv m) : MInv m.finishClose := by
  unfold Manager.finishClose
  split
  · rename_i hcond
    have ss := closeObjs_same (m.pools ++ m.reserve.map (·.2)) m
    have h' := minv_same ss h
    refine ⟨h'.chk, h'.wlen, h'.pv, (fun _ hr => nomatch hr), List.nodup_nil, (fun _ _ hr => nomatch hr), fun _ => ?_⟩
    rw [ss.cancelled, ss.watchers]
    exact ⟨hcond.1, hcond.2.1⟩
  · exact h

theorem minv_step {m : Manager} (h : MInv m) (op : MOp) : MInv (m.step op) := by
  cases op with
  | hotRestart id e c => exact minv_hotRestart h id e c
  | tick => exact minv_tick h
  | timeout => exact minv_timeout h
  | lose o => exact minv_lose h o
  | watch id f c x => exact minv_watch h id f c x
  | cancel => exact minv_cancel h
  | finishClose => exact minv_finishClose h

theorem minv_run {m : Manager} (h : MInv m) (ops : List MOp) : MInv (m.run ops) :=
  List.foldlRecOn ops Manager.step h fun _ hb op _ => minv_step hb op

end Restart

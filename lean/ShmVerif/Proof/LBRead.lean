import ShmVerif.Proof.LBMem
/-!
  The reader half of the byte-pipe refinement.  The content of a buffer is the concatenation of the unread parts of its
  slices, front first; it depends on the memory through the payload bytes of the slices' own slots only.  Every
  BufferReader operation (ReadBytes, Peek, Discard, ReadString, Read - `readInto` in the model -, ReadByte) that finds its
  bytes buffered acts on the content as `take` / `drop`, wherever slice boundaries fall, and leaves every payload byte as it
  is; ReleasePreviousRead leaves the content as it is.

  The loops of ReadString and Read count `written` up to `size`; their lemmas carry `need` with `written + need = size`
  instead of `size - written`, so that no step of an induction has to reason about truncated subtraction.
-/
namespace LB
open List

def BS.unread (m : Mem) (s : BS) : List Nat := ((s.bytes m).drop s.ri).take s.size

def content (m : Mem) (sl : List BS) : List Nat := sl.flatMap (BS.unread m)

/-- a slice's indices are inside its payload -/
def BS.WF (m : Mem) (s : BS) : Prop := s.ri ≤ s.wi ∧ s.wi ≤ (s.bytes m).length

def SlicesWF (m : Mem) (sl : List BS) : Prop := ∀ s ∈ sl, s.WF m

theorem BS.unread_length (m : Mem) (s : BS) (h : s.WF m) : (s.unread m).length = s.size := by
  unfold BS.unread BS.size BS.WF at *
  simp only [length_take, length_drop]; omega

theorem content_cons (m : Mem) (s : BS) (r : List BS) : content m (s :: r) = s.unread m ++ content m r := by
  simp [content]

theorem content_append (m : Mem) (a b : List BS) : content m (a ++ b) = content m a ++ content m b := by
  simp [content]

theorem content_pos_nonempty (m : Mem) (sl : List BS) (h : 0 < (content m sl).length) : sl ≠ [] := by
  intro e; subst e; simp [content] at h

theorem front_of_content {m : Mem} {l : LBuf} (h : 0 < (content m l.sl).length) :
    ∃ f r, l.sl = f :: r ∧ l.front? = some f := by
  cases hsl : l.sl with
  | nil => exact absurd hsl (content_pos_nonempty m _ h)
  | cons f r => exact ⟨f, r, rfl, by rw [LBuf.front?, hsl]; rfl⟩

theorem reSlice_unread (m : Mem) (i : Nat) :
    (reSlice m i).unread m = (((m.slot i).data).drop (m.slot i).hdr.start).take (m.slot i).hdr.size := by
  simp [BS.unread, BS.bytes, BS.size, reSlice]

theorem reSlice_wf (m : Mem) (i : Nat) (h : (m.slot i).hdr.start + (m.slot i).hdr.size ≤ (m.slot i).data.length) :
    (reSlice m i).WF m := ⟨Nat.le_add_right _ _, h⟩

/-- the content and the well-formedness of slices depend on the memory through the payload bytes of their own slots only -/
theorem bytes_untouched {m m' : Mem} {s : BS} (h : ∀ i, s.slot = some i → (m'.slot i).data = (m.slot i).data) :
    s.bytes m' = s.bytes m := by
  unfold BS.bytes
  cases hs : s.slot with
  | none => rfl
  | some i => exact h i hs

theorem content_ext (m1 m : Mem) : ∀ (a : List BS), (∀ (j : Nat) (t : BS), a[j]? = some t → t.unread m1 = t.unread m) → content m1 a = content m a
  | [], _ => rfl
  | x :: r, h => by
    rw [content_cons, content_cons, h 0 x rfl, content_ext m1 m r (fun j t ht => h (j + 1) t (by simpa using ht))]

theorem content_untouched {m m' : Mem} {sl : List BS} (h : ∀ p ∈ heldS sl, (m'.slot p).data = (m.slot p).data) :
    content m' sl = content m sl :=
  content_ext m' m sl fun _ t ht => by
    unfold BS.unread; rw [bytes_untouched fun i hi => h i (mem_filterMap.mpr ⟨t, mem_of_getElem? ht, hi⟩)]

theorem slicesWF_untouched {m m' : Mem} {sl : List BS} (h : ∀ p ∈ heldS sl, (m'.slot p).data = (m.slot p).data)
    (hw : SlicesWF m sl) : SlicesWF m' sl := by
  intro s hs
  unfold BS.WF
  rw [bytes_untouched (fun i hi => h i (mem_filterMap.mpr ⟨s, hs, hi⟩))]
  exact hw s hs

/-- `(m', l')` holds what `(m, l)` holds minus the prefix `d`, and no payload byte has changed.  Every reader loop is a
    chain of such steps; `take` and `drop` only appear when the chain is closed (`Reads.queue`). -/
structure Reads (m : Mem) (l : LBuf) (d : List Nat) (m' : Mem) (l' : LBuf) : Prop where
  split : content m l.sl = d ++ content m' l'.sl
  wf : SlicesWF m' l'.sl
  data : ∀ j, (m'.slot j).data = (m.slot j).data

theorem Reads.refl {m : Mem} {l : LBuf} (h : SlicesWF m l.sl) : Reads m l [] m l := ⟨rfl, h, fun _ => rfl⟩

theorem Reads.trans {m m1 m2 : Mem} {l l1 l2 : LBuf} {d1 d2 : List Nat} (a : Reads m l d1 m1 l1) (b : Reads m1 l1 d2 m2 l2) :
    Reads m l (d1 ++ d2) m2 l2 :=
  ⟨by rw [a.split, b.split, append_assoc], b.wf, fun j => (b.data j).trans (a.data j)⟩

theorem Reads.length {m m' : Mem} {l l' : LBuf} {d : List Nat} (a : Reads m l d m' l') :
    (content m l.sl).length = d.length + (content m' l'.sl).length := by
  rw [a.split, length_append]

theorem Reads.congr {m m' : Mem} {l l' k k' : LBuf} {d : List Nat} (a : Reads m l d m' l') (e : k.sl = l.sl) (e' : k'.sl = l'.sl) :
    Reads m k d m' k' := ⟨by rw [e, e']; exact a.split, by rw [e']; exact a.wf, a.data⟩

/-- a reader call's answer in the terms of a byte queue -/
theorem Reads.queue {m m' : Mem} {l l' k : LBuf} {d : List Nat} {n : Nat} (a : Reads m l d m' l') (hd : d.length = n)
    (e : k.sl = l'.sl) (hl : k.len = l.len - n) :
    d = (content m l.sl).take n ∧ content m' k.sl = (content m l.sl).drop n ∧ SlicesWF m' k.sl ∧ k.len = l.len - n ∧
      (∀ j, (m'.slot j).data = (m.slot j).data) := by
  rw [a.split, take_left' hd, drop_left' hd, e]; exact ⟨rfl, rfl, a.wf, hl, a.data⟩

theorem BS.read_spec {m : Mem} {s s' : BS} {n : Nat} {d : List Nat} {sh : Bool} (h : s.WF m) (e : s.read m n = (s', d, sh)) :
    s.unread m = d ++ s'.unread m ∧ d.length = min n s.size ∧ s'.WF m ∧ s'.size = s.size - n ∧ (sh = true ↔ s.size < n) := by
  unfold BS.read at e
  simp only [Prod.mk.injEq] at e
  obtain ⟨rfl, rfl, rfl⟩ := e
  unfold BS.unread BS.size BS.WF BS.bytes at *
  obtain ⟨h1, h2⟩ := h
  simp only
  refine ⟨?_, by simp only [length_take, length_drop]; omega, by constructor <;> omega, by omega, by simp⟩
  rw [← drop_drop, ← take_add]
  congr 1; omega

theorem BS.peek_spec (m : Mem) (s : BS) (n : Nat) : s.peek m n = (s.unread m).take n := by
  unfold BS.peek BS.unread BS.size
  rw [take_take]

theorem BS.skip_eq (m : Mem) (s : BS) (n : Nat) : s.skip n = ((s.read m n).1, min n s.size) := rfl

theorem reads_front {m : Mem} {l : LBuf} {f f' : BS} {r : List BS} {n : Nat} {d : List Nat} {sh : Bool} (hsl : l.sl = f :: r)
    (hwf : SlicesWF m l.sl) (e : f.read m n = (f', d, sh)) :
    Reads m l d m (l.setFront f') ∧ (l.setFront f').sl = f' :: r ∧ d.length = min n f.size ∧ f'.size = f.size - n ∧
      (sh = true ↔ f.size < n) := by
  rw [hsl] at hwf
  obtain ⟨h1, h2, h3, h4, h5⟩ := BS.read_spec (hwf f mem_cons_self) e
  have hs : (l.setFront f').sl = f' :: r := by rw [LBuf.setFront, hsl]; rfl
  refine ⟨⟨?_, ?_, fun _ => rfl⟩, hs, h2, h4, h5⟩
  · rw [hs, hsl, content_cons, content_cons, h1, append_assoc]
  · rw [hs]; intro x hx
    rcases mem_cons.mp hx with rfl | hx
    · exact h3
    · exact hwf x (mem_cons_of_mem _ hx)

theorem reads_next {m : Mem} {l : LBuf} {s : BS} {r : List BS} (hsl : l.sl = s :: r) (hwf : SlicesWF m l.sl) (h0 : s.size = 0) :
    ∃ m' l', l.readNext m = some (m', l') ∧ Reads m l [] m' l' ∧ l'.sl = r ∧ l'.len = l.len := by
  rw [hsl] at hwf
  have hr : SlicesWF m r := fun x hx => hwf x (mem_cons_of_mem _ hx)
  have hc : content m l.sl = content m r := by
    rw [hsl, content_cons, length_eq_zero_iff.mp ((BS.unread_length m s (hwf s mem_cons_self)).trans h0), nil_append]
  obtain ⟨l', ⟨e, _⟩ | ⟨_, e, _⟩, e1, e2⟩ := readNext_eq (m := m) hsl
  · exact ⟨m, l', e, ⟨by rw [hc, e1, nil_append], e1 ▸ hr, fun _ => rfl⟩, e1, e2⟩
  · have hd := fun (p : Nat) (_ : p ∈ heldS r) => recycle_data m s p
    exact ⟨_, l', e, ⟨by rw [hc, e1, nil_append, content_untouched hd], e1 ▸ slicesWF_untouched hd hr, recycle_data m s⟩, e1, e2⟩

/-- the front slice does not hold more than is wanted: it is read to its end and popped -/
theorem reads_front_next {m : Mem} {l : LBuf} {f f' : BS} {r : List BS} {n : Nat} {d : List Nat} {sh : Bool} (hsl : l.sl = f :: r)
    (hwf : SlicesWF m l.sl) (e : f.read m n = (f', d, sh)) (hn : f.size ≤ n) :
    ∃ m' l', (l.setFront f').readNext m = some (m', l') ∧ Reads m l d m' l' ∧ d.length = f.size ∧ l'.sl = r ∧ l'.len = l.len := by
  obtain ⟨a, hs, h2, h3, _⟩ := reads_front hsl hwf e
  obtain ⟨m', l', e, b, e1, e2⟩ := reads_next hs a.wf (by omega)
  exact ⟨m', l', e, by simpa using a.trans b, by omega, e1, e2⟩

/-- ReadBytes and ReadString first drop a used-up front slice -/
theorem reads_skip_empty {m : Mem} {l : LBuf} {f : BS} {r : List BS} (hsl : l.sl = f :: r) (hwf : SlicesWF m l.sl) :
    ∃ m1 l1, (if f.size = 0 then l.readNext m else some (m, l)) = some (m1, l1) ∧ Reads m l [] m1 l1 ∧ l1.len = l.len ∧
      (f.size = 0 ∧ l1.sl = r ∨ f.size ≠ 0 ∧ l1.sl = l.sl) := by
  by_cases he : f.size = 0
  · rw [if_pos he]
    obtain ⟨m1, l1, e, a, e1, e2⟩ := reads_next hsl hwf he
    exact ⟨m1, l1, e, a, e2, Or.inl ⟨he, e1⟩⟩
  · rw [if_neg he]; exact ⟨m, l, rfl, Reads.refl hwf, rfl, Or.inr ⟨he, rfl⟩⟩

theorem readBytes_slow_zero (k : Nat) (m : Mem) (l : LBuf) (acc : List Nat) :
    LBuf.readBytes.slow (k + 1) m l 0 acc = some (m, l, acc) := by
  unfold LBuf.readBytes.slow; rfl

theorem readBytes_slow_spec : ∀ (fuel : Nat) (m : Mem) (l : LBuf) (need : Nat) (acc : List Nat),
    SlicesWF m l.sl → need ≤ (content m l.sl).length → l.sl.length < fuel →
    ∃ m' l' d, LBuf.readBytes.slow fuel m l need acc = some (m', l', acc ++ d) ∧ d.length = need ∧ Reads m l d m' l' ∧
      l'.len = l.len := by
  intro fuel
  induction fuel with
  | zero => intro m l need acc _ _ h; omega
  | succ k ih =>
    intro m l need acc hwf hneed hfuel
    by_cases h0 : need = 0
    · subst h0; exact ⟨m, l, [], by rw [readBytes_slow_zero, append_nil], rfl, Reads.refl hwf, rfl⟩
    · obtain ⟨f, r, hsl, hf⟩ := front_of_content (m := m) (l := l) (by omega)
      rcases hrd : f.read m need with ⟨f', d, sh⟩
      obtain ⟨a, _, hlen, _, _⟩ := reads_front hsl hwf hrd
      unfold LBuf.readBytes.slow
      simp only [if_neg h0, hf, hrd]
      rw [hsl, length_cons] at hfuel
      by_cases hlt : d.length ≠ need
      · -- the front slice is exhausted: pop it and continue with the rest
        obtain ⟨m2, l2, e, a2, hd, e1, e2⟩ := reads_front_next hsl hwf hrd (by omega)
        have hc := a2.length
        obtain ⟨m3, l3, d3, g, gl, b, g2⟩ := ih m2 l2 (need - d.length) (acc ++ d) a2.wf (by omega) (by rw [e1]; omega)
        simp only [if_pos hlt, e]
        exact ⟨m3, l3, d ++ d3, by rw [g, append_assoc], by rw [length_append, gl, Nat.add_sub_cancel' (hlen ▸ Nat.min_le_left _ _)],
          a2.trans b, g2.trans e2⟩
      · -- the front slice holds everything that is still needed
        obtain ⟨k', rfl⟩ : ∃ k', k = k' + 1 := ⟨k - 1, by omega⟩
        rw [if_neg hlt, Decidable.not_not.mp hlt, Nat.sub_self, readBytes_slow_zero]
        exact ⟨m, _, d, rfl, Decidable.not_not.mp hlt, a, rfl⟩

theorem readBytes_spec (m : Mem) (l : LBuf) (size : Nat) (hwf : SlicesWF m l.sl)
    (hpos : 0 < size) (hsz : size ≤ (content m l.sl).length) :
    ∃ m' l' d, l.readBytes m size = some (m', l', d) ∧ d = (content m l.sl).take size ∧
      content m' l'.sl = (content m l.sl).drop size ∧ SlicesWF m' l'.sl ∧ l'.len = l.len - size ∧
      (∀ j, (m'.slot j).data = (m.slot j).data) := by
  unfold LBuf.readBytes
  obtain ⟨f0, r0, hsl, hf0⟩ := front_of_content (Nat.lt_of_lt_of_le hpos hsz)
  rw [if_neg (by omega), hf0]
  obtain ⟨m1, l1, e1, a1, hl1, _⟩ := reads_skip_empty hsl hwf
  have hsz1 : size ≤ (content m1 l1.sl).length := by have := a1.length; simp only [length_nil] at this; omega
  obtain ⟨f, r, hsl1, hf⟩ := front_of_content (Nat.lt_of_lt_of_le hpos hsz1)
  simp only [e1, hf]
  by_cases hfast : f.size ≥ size
  · rcases hrd : f.read m1 size with ⟨f', d, sh⟩
    obtain ⟨a2, _, hlen, _, _⟩ := reads_front hsl1 a1.wf hrd
    rw [if_pos hfast]
    exact ⟨m1, _, _, rfl, (a1.trans a2).queue (by simp only [nil_append]; omega) rfl (by rw [hl1])⟩
  · obtain ⟨m3, l3, d, g, gl, b, g2⟩ := readBytes_slow_spec (l1.sl.length + size + 2) m1 { l1 with len := l1.len - size } size []
      a1.wf hsz1 (by simp only []; omega)
    rw [if_neg hfast]
    exact ⟨m3, l3, d, g, (a1.trans (b.congr (k := l1) rfl rfl)).queue gl rfl (by rw [g2, hl1])⟩

/-- the function `LBuf.peekBytes` folds over the slices behind the front one; `peek_spec` puts it in place of the model's
    lambda by `change` -/
def peekStep (m : Mem) (acc : List Nat × Nat) (e : BS) : List Nat × Nat :=
  if acc.2 > 0 then let x := e.peek m acc.2; (acc.1 ++ x, acc.2 - x.length) else acc

theorem peek_fold_spec (m : Mem) : ∀ (rest : List BS) (d : List Nat) (n : Nat), SlicesWF m rest →
    (rest.foldl (peekStep m) (d, n)).1 = d ++ (content m rest).take n := by
  intro rest
  induction rest with
  | nil => intro d n _; simp [content]
  | cons e r ih =>
    intro d n hwf
    have hu := BS.unread_length m e (hwf e mem_cons_self)
    have hr : SlicesWF m r := fun x hx => hwf x (mem_cons_of_mem _ hx)
    rw [foldl_cons, content_cons, take_append, hu]
    by_cases hn : n > 0
    · rw [peekStep, if_pos hn, BS.peek_spec, ih _ _ hr, append_assoc]
      congr 3
      simp only [length_take]; omega
    · have hn0 : n = 0 := by omega
      subst hn0
      rw [peekStep, if_neg hn, ih d 0 hr]; simp

theorem peek_spec (m : Mem) (l : LBuf) (size : Nat) (hwf : SlicesWF m l.sl)
    (hpos : 0 < size) (hsz : size ≤ (content m l.sl).length) :
    ∃ l' d, l.peekBytes m size = some (l', d) ∧ d = (content m l.sl).take size ∧ l'.sl = l.sl ∧ l'.len = l.len := by
  unfold LBuf.peekBytes
  obtain ⟨f, r, hsl, hf⟩ := front_of_content (Nat.lt_of_lt_of_le hpos hsz)
  have hu := BS.unread_length m f (hwf f (hsl ▸ mem_cons_self))
  have hc : (content m l.sl).take size = (f.unread m).take size ++ (content m r).take (size - f.size) := by
    rw [hsl, content_cons, take_append, hu]
  rw [if_neg (by omega), hf, hc]
  simp only
  rw [BS.peek_spec]
  by_cases hfast : ((f.unread m).take size).length = size
  · simp only [if_pos hfast]
    refine ⟨_, _, rfl, ?_, rfl, rfl⟩
    simp only [length_take] at hfast
    rw [show size - f.size = 0 by omega, take_zero, append_nil]
  · simp only [if_neg hfast]
    refine ⟨l, _, rfl, ?_, rfl, rfl⟩
    have := peek_fold_spec m r ((f.unread m).take size) (size - ((f.unread m).take size).length)
      (fun x hx => hwf x (hsl ▸ mem_cons_of_mem _ hx))
    rw [show l.sl.tail = r by rw [hsl]; rfl]
    change (foldl (peekStep m) _ r).1 = _
    rw [this]
    congr 2
    simp only [length_take]; omega

theorem discard_go_spec : ∀ (fuel : Nat) (m : Mem) (l : LBuf) (need n : Nat),
    SlicesWF m l.sl → 0 < need → need ≤ (content m l.sl).length → l.sl.length < fuel →
    ∃ m' l' d, LBuf.discard.go fuel m l need n = some (m', l', n + need) ∧ d.length = need ∧ Reads m l d m' l' ∧
      l'.len = l.len - (n + need) := by
  intro fuel
  induction fuel with
  | zero => intro m l need n _ _ _ h; omega
  | succ k ih =>
    intro m l need n hwf hpos hneed hfuel
    obtain ⟨f, r, hsl, hf⟩ := front_of_content (Nat.lt_of_lt_of_le hpos hneed)
    rcases hrd : f.read m need with ⟨f', d, sh⟩
    obtain ⟨a, _, hlen, _, _⟩ := reads_front hsl hwf hrd
    have hsk : f.skip need = (f', min need f.size) := by rw [BS.skip_eq m, hrd]
    unfold LBuf.discard.go
    simp only [hf, hsk]
    rw [hsl, length_cons] at hfuel
    by_cases hdone : need ≤ f.size
    · have e : min need f.size = need := Nat.min_eq_left hdone
      simp only [e, Nat.sub_self, if_true]
      exact ⟨m, _, d, rfl, hlen.trans e, a.congr rfl rfl, rfl⟩
    · have hle : f.size ≤ need := by omega
      have e : min need f.size = f.size := Nat.min_eq_right hle
      have hadd : n + f.size + (need - f.size) = n + need := by rw [Nat.add_assoc, Nat.add_sub_cancel' hle]
      have hne : ¬ need - f.size = 0 := by omega
      obtain ⟨m2, l2, e', a2, hd, e1, e2⟩ := reads_front_next hsl hwf hrd hle
      have hc := a2.length
      obtain ⟨m3, l3, d3, g, gl, b, g2⟩ := ih m2 l2 (need - f.size) (n + f.size) a2.wf (by omega) (by omega) (by rw [e1]; omega)
      simp only [e, if_neg hne, e']
      exact ⟨m3, l3, d ++ d3, by rw [g, hadd], by rw [length_append, gl, hd, Nat.add_sub_cancel' hle], a2.trans b, by rw [g2, e2, hadd]⟩

theorem discard_spec (m : Mem) (l : LBuf) (size : Nat) (hwf : SlicesWF m l.sl)
    (hpos : 0 < size) (hsz : size ≤ (content m l.sl).length) :
    ∃ m' l', l.discard m size = some (m', l', size) ∧ content m' l'.sl = (content m l.sl).drop size ∧
      SlicesWF m' l'.sl ∧ l'.len = l.len - size ∧ (∀ j, (m'.slot j).data = (m.slot j).data) := by
  unfold LBuf.discard
  rw [if_neg (by omega)]
  obtain ⟨m', l', d, g, gl, a, g2⟩ := discard_go_spec (l.sl.length + 2) m l size 0 hwf hpos hsz (by omega)
  exact ⟨m', l', by simpa using g, (a.queue gl rfl (by simpa using g2)).2⟩

theorem readInto_go_spec (size : Nat) : ∀ (fuel : Nat) (m : Mem) (l : LBuf) (w need : Nat) (acc : List Nat),
    SlicesWF m l.sl → w + need = size → need ≤ (content m l.sl).length → l.sl.length < fuel →
    ∃ m' l' d, LBuf.readInto.go size fuel m l w acc = some (m', l', acc ++ d) ∧ d.length = need ∧
      Reads m l d m' l' ∧ l'.len = l.len - size := by
  intro fuel
  induction fuel with
  | zero => intro m l w need acc _ _ _ h; omega
  | succ k ih =>
    intro m l w need acc hwf hw hneed hfuel
    have hsub : size - w = need := by omega
    unfold LBuf.readInto.go
    by_cases hgt : size > w
    · obtain ⟨f, r, hsl, hf⟩ := front_of_content (m := m) (l := l) (by omega)
      rcases hrd : f.read m need with ⟨f', d, sh⟩
      obtain ⟨a, _, hlen, _, hsh⟩ := reads_front hsl hwf hrd
      simp only [hf, if_pos hgt, hsub, hrd]
      rw [hsl, length_cons] at hfuel
      by_cases hshort : f.size < need
      · have hle : f.size ≤ need := Nat.le_of_lt hshort
        obtain ⟨m2, l2, e, a2, hd, e1, e2⟩ := reads_front_next hsl hwf hrd hle
        have hc := a2.length
        obtain ⟨m3, l3, d3, g, gl, b, g2⟩ := ih m2 l2 (w + d.length) (need - f.size) (acc ++ d) a2.wf
          (by omega) (by omega) (by rw [e1]; omega)
        simp only [hsh.mpr hshort, Bool.not_true, Bool.false_eq_true, if_false, e]
        exact ⟨m3, l3, d ++ d3, by rw [g, append_assoc], by rw [length_append, gl, hd, Nat.add_sub_cancel' hle], a2.trans b,
          by rw [g2, e2]⟩
      · have hd : d.length = need := hlen.trans (Nat.min_eq_left (Nat.le_of_not_lt hshort))
        simp only [Bool.eq_false_iff.mpr (mt hsh.mp hshort), Bool.not_false, if_true]
        exact ⟨m, _, d, rfl, hd, a.congr rfl rfl, by show l.len - (w + d.length) = _; rw [hd, hw]⟩
    · refine ⟨m, { l with len := l.len - w }, [], ?_, by rw [length_nil]; omega, (Reads.refl hwf).congr rfl rfl,
        by show l.len - w = _; omega⟩
      cases l.front? with
      | none => rw [append_nil]
      | some f => simp only [if_neg hgt, append_nil]

theorem readInto_spec (m : Mem) (l : LBuf) (size : Nat) (hwf : SlicesWF m l.sl) (hpos : 0 < size)
    (hsz : size ≤ (content m l.sl).length) :
    ∃ m' l' d, l.readInto m size = some (m', l', d) ∧ d = (content m l.sl).take size ∧
      content m' l'.sl = (content m l.sl).drop size ∧ SlicesWF m' l'.sl ∧ l'.len = l.len - size ∧
      (∀ j, (m'.slot j).data = (m.slot j).data) := by
  unfold LBuf.readInto
  rw [if_neg (by omega)]
  obtain ⟨m', l', d, g, gl, a, g2⟩ := readInto_go_spec size (l.sl.length + 2) m l 0 size [] hwf (Nat.zero_add _) hsz (by omega)
  exact ⟨m', l', d, g, a.queue gl rfl g2⟩

theorem readString_slow_spec (size : Nat) : ∀ (fuel : Nat) (m : Mem) (l : LBuf) (w need : Nat) (acc : List Nat),
    SlicesWF m l.sl → w + need = size → need ≤ (content m l.sl).length → 2 * l.sl.length + need < fuel →
    ∃ m' l' d, LBuf.readString.slow size fuel m l w acc = some (m', l', acc ++ d) ∧ d.length = need ∧
      Reads m l d m' l' ∧ l'.len = l.len - size := by
  intro fuel
  induction fuel with
  | zero => intro m l w need acc _ _ _ h; omega
  | succ k ih =>
    intro m l w need acc hwf hw hneed hfuel
    unfold LBuf.readString.slow
    by_cases hge : w ≥ size
    · rw [if_pos hge]
      exact ⟨m, { l with len := l.len - size }, [], by rw [append_nil], by rw [length_nil]; omega, (Reads.refl hwf).congr rfl rfl, rfl⟩
    · have hsub : size - w = need := by omega
      obtain ⟨f, r, hsl, hf⟩ := front_of_content (m := m) (l := l) (by omega)
      obtain ⟨m1, l1, e1, a1, hl1, hcase⟩ := reads_skip_empty hsl hwf
      have hc1 : (content m l.sl).length = (content m1 l1.sl).length := by simpa using a1.length
      obtain ⟨g, r1, hsl1, hg⟩ := front_of_content (m := m1) (l := l1) (by omega)
      rcases hrd : g.read m1 need with ⟨g', d, sh⟩
      obtain ⟨a2, hs2, hlen, _, _⟩ := reads_front hsl1 a1.wf hrd
      have hc2 := a2.length
      have hle : d.length ≤ need := hlen ▸ Nat.min_le_left _ _
      -- progress: a slice was popped, or a byte was read from a slice that is not used up
      have hfuel' : 2 * (l1.setFront g').sl.length + (need - d.length) < k := by
        rw [hs2, length_cons, ← length_cons (a := g), ← hsl1]
        rcases hcase with ⟨_, h⟩ | ⟨h0, h⟩
        · rw [h]; rw [hsl, length_cons] at hfuel; omega
        · rw [h] at hsl1 ⊢; rw [hsl] at hsl1; cases hsl1; omega
      obtain ⟨m3, l3, d3, g3, gl, b, g2⟩ := ih m1 _ (w + d.length) (need - d.length) (acc ++ d) a2.wf (by omega) (by omega) hfuel'
      simp only [if_neg hge, hf, e1, hg, hsub, hrd]
      exact ⟨m3, l3, d ++ d3, by rw [g3, append_assoc], by rw [length_append, gl, Nat.add_sub_cancel' hle],
        by simpa using a1.trans (a2.trans b), by rw [g2]; show l1.len - size = _; rw [hl1]⟩

theorem readString_spec (m : Mem) (l : LBuf) (size : Nat) (hwf : SlicesWF m l.sl) (hpos : 0 < size)
    (hsz : size ≤ (content m l.sl).length) :
    ∃ m' l' d, l.readString m size = some (m', l', d) ∧ d = (content m l.sl).take size ∧
      content m' l'.sl = (content m l.sl).drop size ∧ SlicesWF m' l'.sl ∧ l'.len = l.len - size ∧
      (∀ j, (m'.slot j).data = (m.slot j).data) := by
  unfold LBuf.readString
  obtain ⟨f, r, hsl, hf⟩ := front_of_content (Nat.lt_of_lt_of_le hpos hsz)
  rw [if_neg (by omega), hf]
  by_cases hge : f.size ≥ size
  · rcases hrd : f.read m size with ⟨f', d, sh⟩
    obtain ⟨a, _, hlen, _, _⟩ := reads_front hsl hwf hrd
    simp only [if_pos hge, hrd]
    exact ⟨m, _, _, rfl, a.queue (hlen.trans (Nat.min_eq_left hge)) rfl rfl⟩
  · obtain ⟨m', l', d, g, gl, a, g2⟩ := readString_slow_spec size (2 * l.sl.length + size + 2) m l 0 size [] hwf
      (Nat.zero_add _) hsz (by omega)
    simp only [if_neg hge]
    exact ⟨m', l', d, g, a.queue gl rfl g2⟩

theorem readByte_go_spec : ∀ (fuel : Nat) (m : Mem) (l : LBuf), SlicesWF m l.sl → 1 ≤ (content m l.sl).length →
    l.sl.length + 1 ≤ fuel →
    ∃ m' l' b, LBuf.readByte.go fuel m l = some (m', l', b) ∧ Reads m l [b] m' l' ∧ l'.len = l.len - 1 := by
  intro fuel
  induction fuel with
  | zero => intro m l _ _ hf; omega
  | succ k ih =>
    intro m l hwf hsz hfuel
    obtain ⟨f, r, hsl, hf⟩ := front_of_content (m := m) (l := l) (by omega)
    rcases hrd : f.read m 1 with ⟨f', d, sh⟩
    obtain ⟨a, _, hlen, _, hsh⟩ := reads_front hsl hwf hrd
    unfold LBuf.readByte.go
    simp only [hf, hrd]
    by_cases hshort : f.size < 1
    · obtain ⟨m2, l2, e, a2, hd, e1, e2⟩ := reads_front_next hsl hwf hrd (Nat.le_of_lt hshort)
      have hnil : d = [] := length_eq_zero_iff.mp (by omega)
      rw [hnil] at a2
      have hc : (content m l.sl).length = (content m2 l2.sl).length := by simpa using a2.length
      obtain ⟨m', l', b, g, c, g2⟩ := ih m2 l2 a2.wf (by omega) (by rw [e1]; rw [hsl, length_cons] at hfuel; omega)
      simp only [hsh.mpr hshort, Bool.not_true, Bool.false_eq_true, if_false, e]
      exact ⟨m', l', b, g, by simpa using a2.trans c, by rw [g2, e2]⟩
    · simp only [Bool.eq_false_iff.mpr (mt hsh.mp hshort), Bool.not_false, if_true]
      have : d = [d.headD 0] := by
        cases d with
        | nil => rw [length_nil] at hlen; omega
        | cons x rest =>
          have : rest = [] := length_eq_zero_iff.mp (by rw [length_cons] at hlen; omega)
          rw [this]; rfl
      exact ⟨m, _, _, rfl, (this ▸ a).congr rfl rfl, rfl⟩

/-- **linkedBuffer.ReadByte with at least one byte buffered returns the next byte and consumes it** - wherever it lies:
    used-up and empty slices in front of it (a fall-back event may carry an empty payload) are popped -/
theorem readByte_spec (m : Mem) (l : LBuf) (hwf : SlicesWF m l.sl) (hsz : 1 ≤ (content m l.sl).length) :
    ∃ m' l' b, l.readByte m = some (m', l', b) ∧
      [b] = (content m l.sl).take 1 ∧ content m' l'.sl = (content m l.sl).drop 1 ∧ SlicesWF m' l'.sl ∧ l'.len = l.len - 1 ∧
      (∀ j, (m'.slot j).data = (m.slot j).data) := by
  obtain ⟨m', l', b, g, a, g2⟩ := readByte_go_spec _ m l hwf hsz (Nat.le_refl _)
  exact ⟨m', l', b, g, a.queue rfl rfl g2⟩

/-- ReleasePreviousRead consumes nothing -/
theorem release_content (m : Mem) (l : LBuf) (hwf : SlicesWF m l.sl) :
    content (l.release m).1 (l.release m).2.sl = content m l.sl ∧ SlicesWF (l.release m).1 (l.release m).2.sl ∧
    (l.release m).2.len = l.len := by
  obtain ⟨_, hl, hd, hsl⟩ := release_cases m l
  have hw : SlicesWF m (l.release m).2.sl := by
    rcases hsl with e | ⟨f, _, e⟩
    · rw [e]; exact hwf
    · exact fun t ht => hwf t (by rw [e]; exact mem_cons_of_mem _ ht)
  refine ⟨?_, slicesWF_untouched (fun p _ => hd p) hw, hl⟩
  rw [content_untouched (fun p _ => hd p)]
  rcases hsl with e | ⟨f, hz, e⟩
  · rw [e]
  · rw [e, content_cons, show f.unread m = [] by simp [BS.unread, hz], nil_append]

end LB

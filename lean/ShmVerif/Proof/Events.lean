import ShmVerif.Model.Events
/-!
  Prefix stability of the event parser and independence from the way the byte stream is cut into reads.
-/
namespace Events
open List

/-- What the handler of event type `ty` reads behind the header (`len` is the header's length field): how many bytes,
    and what it makes of them; `none` for a type without a handler after the handshake, or a length that is refused. -/
def handler (cfg : Cfg) (len ty : Nat) : Option (Nat × (List Nat → Next)) :=
  if ty = typePolling then some (0, fun _ => .ev .poll headerSize)
  else if ty = typeStreamClose then
    some (4, fun p => match p with | [a, b, c, d] => .ev (.close (be32 a b c d)) (headerSize + 4) | _ => .fail)
  else if ty = typeFallbackData then
    if len < headerSize + 8 then none
    else some (len - headerSize, fun p => match p with
      | s0 :: s1 :: s2 :: s3 :: t0 :: t1 :: t2 :: t3 :: payload =>
        .ev (.data (be32 s0 s1 s2 s3) (be32 t0 t1 t2 t3 % 256) payload) len
      | _ => .fail)
  else if ty = typeHotRestart then
    some (8, fun p => if cfg.hasManager then .ev (.hotRestart (be64 p)) (headerSize + 8) else .fail)
  else if ty = typeHotRestartAck then
    some (8, fun p => if cfg.hasListener then .ev (.hotRestartAck (be64 p)) (headerSize + 8) else .fail)
  else none

theorem handler_data (cfg : Cfg) {len : Nat} (h : ¬ len < headerSize + 8) :
    handler cfg len typeFallbackData = some (len - headerSize, fun p => match p with
      | s0 :: s1 :: s2 :: s3 :: t0 :: t1 :: t2 :: t3 :: payload =>
        .ev (.data (be32 s0 s1 s2 s3) (be32 t0 t1 t2 t3 % 256) payload) len
      | _ => .fail) := by
  unfold handler
  rw [if_neg (by decide), if_neg (by decide), if_pos rfl, if_neg h]

theorem nextH_eq (cfg : Cfg) (l0 l1 l2 l3 m0 m1 ver ty : Nat) (rest : List Nat) :
    nextH cfg [l0, l1, l2, l3, m0, m1, ver, ty] rest =
      if be16 m0 m1 ≠ magicNumber ∨ ver = 0 then .fail else
      match handler cfg (be32 l0 l1 l2 l3) ty with
      | none => .fail
      | some (k, f) => if rest.length < k then .more else f (rest.take k) := by
  unfold nextH handler
  simp only [typePolling, typeStreamClose, typeFallbackData, typeHotRestart, typeHotRestartAck, maxEventType]
  split
  · rfl
  · by_cases h1 : ty = 1
    · subst h1; simp
    by_cases h2 : ty = 2
    · subst h2; simp; rfl
    by_cases h3 : ty = 3
    · subst h3; simp; split <;> rfl
    by_cases h8 : ty = 8
    · subst h8; simp
    by_cases h9 : ty = 9
    · subst h9; simp
    simp [h1, h2, h3, h8, h9]

theorem handler_ev {cfg : Cfg} {len ty k : Nat} {f : List Nat → Next} (h : handler cfg len ty = some (k, f))
    {p : List Nat} {e : Effect} {n : Nat} (he : f p = .ev e n) : n = headerSize + k := by
  unfold handler at h
  simp only [typePolling, typeStreamClose, typeFallbackData, typeHotRestart, typeHotRestartAck] at h
  by_cases h1 : ty = 1
  · subst h1; simp at h; obtain ⟨rfl, rfl⟩ := h; cases he; rfl
  by_cases h2 : ty = 2
  · subst h2; simp at h; obtain ⟨rfl, rfl⟩ := h; simp only at he; split at he <;> cases he; rfl
  by_cases h3 : ty = 3
  · subst h3; simp at h; obtain ⟨hl, rfl, rfl⟩ := h; simp only at he; split at he <;> cases he; omega
  by_cases h8 : ty = 8
  · subst h8; simp at h; obtain ⟨rfl, rfl⟩ := h; simp only at he; split at he <;> cases he; rfl
  by_cases h9 : ty = 9
  · subst h9; simp at h; obtain ⟨rfl, rfl⟩ := h; simp only at he; split at he <;> cases he; rfl
  · simp [h1, h2, h3, h8, h9] at h

theorem nextH_of_ne (cfg : Cfg) (h rest : List Nat) (hne : ¬ ∃ l0 l1 l2 l3 m0 m1 ver ty, h = [l0, l1, l2, l3, m0, m1, ver, ty]) :
    nextH cfg h rest = .fail := by
  unfold nextH
  split
  · exact absurd ⟨_, _, _, _, _, _, _, _, rfl⟩ hne
  · rfl

/-- Unless the handler waits for more bytes, its verdict depends only on the bytes it asked for: more bytes behind them
    change nothing, and a handled event has consumed between 1 and all available bytes. -/
theorem nextH_append (cfg : Cfg) (h rest x : List Nat) (hm : nextH cfg h rest ≠ .more) :
    nextH cfg h (rest ++ x) = nextH cfg h rest ∧ ∀ e n, nextH cfg h rest = .ev e n → 0 < n ∧ n ≤ headerSize + rest.length := by
  by_cases hs : ∃ l0 l1 l2 l3 m0 m1 ver ty, h = [l0, l1, l2, l3, m0, m1, ver, ty]
  · obtain ⟨l0, l1, l2, l3, m0, m1, ver, ty, rfl⟩ := hs
    rw [nextH_eq] at hm
    rw [nextH_eq, nextH_eq]
    split
    · exact ⟨rfl, fun _ _ h => by cases h⟩
    · rename_i hmag
      rw [if_neg hmag] at hm
      cases hh : handler cfg (be32 l0 l1 l2 l3) ty with
      | none => exact ⟨rfl, fun _ _ h => by cases h⟩
      | some kf =>
        obtain ⟨k, f⟩ := kf
        simp only [hh] at hm ⊢
        by_cases hk : rest.length < k
        · simp [hk] at hm
        · have hk' : ¬ (rest ++ x).length < k := by simp; omega
          rw [if_neg hk, if_neg hk', take_append_of_le_length (by omega)]
          refine ⟨rfl, fun e n he => ?_⟩
          have := handler_ev hh he
          unfold headerSize at *; omega
  · rw [nextH_of_ne cfg h _ hs, nextH_of_ne cfg h _ hs]
    exact ⟨rfl, fun _ _ h => by cases h⟩

theorem next_append (cfg : Cfg) (w x : List Nat) (hm : next cfg w ≠ .more) :
    next cfg (w ++ x) = next cfg w ∧ ∀ e n, next cfg w = .ev e n → 0 < n ∧ n ≤ w.length := by
  unfold next at hm ⊢
  split at hm
  · exact absurd rfl hm
  · rename_i hlen
    have hlen' : ¬ ((w ++ x).length < headerSize) := by simp; omega
    rw [if_neg hlen, if_neg hlen', take_append_of_le_length (by omega), drop_append_of_le_length (by omega)]
    obtain ⟨h1, h2⟩ := nextH_append cfg _ _ x hm
    refine ⟨h1, fun e n he => ?_⟩
    have := h2 e n he
    simp only [length_drop] at this
    omega

theorem next_ev_le {cfg : Cfg} {w : List Nat} {e : Effect} {n : Nat} (hn : next cfg w = .ev e n) : 0 < n ∧ n ≤ w.length :=
  (next_append cfg w [] (by simp [hn])).2 e n hn

theorem loop_succ (cfg : Cfg) (f : Nat) (s : Sess) (w : List Nat) :
    loop cfg (f + 1) s w =
      (match next cfg w with
       | .more => (s, w, false)
       | .fail => (s, [], true)
       | .ev e n => loop cfg f (apply cfg s e) (w.drop n)) := rfl

theorem loop_fuel (cfg : Cfg) : ∀ (f f' : Nat) (s : Sess) (w : List Nat), w.length < f → w.length < f' →
    loop cfg f s w = loop cfg f' s w := by
  intro f
  induction f with
  | zero => intro f' s w h; omega
  | succ f ih =>
    intro f' s w h h'
    cases f' with
    | zero => omega
    | succ f' =>
      simp only [loop]
      cases hn : next cfg w with
      | more => rfl
      | fail => rfl
      | ev e n =>
        have := next_ev_le hn
        simp only
        apply ih <;> (simp only [length_drop]; omega)

/-- the loop over `w ++ x` = the loop over `w`, then (unless the session was closed) the loop over the rest ++ x -/
theorem loop_split (cfg : Cfg) : ∀ (f : Nat) (s : Sess) (w x : List Nat), w.length < f →
    loop cfg ((w ++ x).length + 1) s (w ++ x) =
      (match loop cfg f s w with
       | (s1, _, true) => (s1, [], true)
       | (s1, r1, false) => loop cfg ((r1 ++ x).length + 1) s1 (r1 ++ x)) := by
  intro f
  induction f with
  | zero => intro s w x h; omega
  | succ f ih =>
    intro s w x h
    rw [loop_succ cfg f s w]
    cases hn : next cfg w with
    | more => rfl
    | fail => rw [loop_succ, (next_append cfg w x (by simp [hn])).1, hn]
    | ev e n =>
      obtain ⟨h2, h3⟩ := next_ev_le hn
      rw [loop_succ, (next_append cfg w x (by simp [hn])).1, hn]
      simp only
      rw [drop_append_of_le_length h3]
      have hlen : (w.drop n).length < f := by simp only [length_drop]; omega
      have := ih (apply cfg s e) (w.drop n) x hlen
      rw [← this]
      apply loop_fuel <;> (simp only [length_append, length_drop]; omega)

theorem loop_rest_more (cfg : Cfg) : ∀ (f : Nat) (s : Sess) (w : List Nat), w.length < f →
    (loop cfg f s w).2.2 = false → next cfg (loop cfg f s w).2.1 = .more := by
  intro f
  induction f with
  | zero => intro s w h; omega
  | succ f ih =>
    intro s w h
    simp only [loop]
    cases hn : next cfg w with
    | more => intro _; exact hn
    | fail => intro hc; simp at hc
    | ev e n =>
      have := next_ev_le hn
      simp only
      apply ih
      simp only [length_drop]; omega

theorem loop_err_rest (cfg : Cfg) : ∀ (f : Nat) (s : Sess) (w : List Nat),
    (loop cfg f s w).2.2 = true → (loop cfg f s w).2.1 = [] := by
  intro f
  induction f with
  | zero => intro s w h; simp [loop] at h
  | succ f ih =>
    intro s w
    rw [loop_succ]
    cases hn : next cfg w with
    | more => intro h; simp at h
    | fail => intro _; rfl
    | ev e n => exact ih _ _

def Stable (cfg : Cfg) (c : Conn) : Prop := c.closed = true ∨ next cfg c.win = .more

theorem feed_stable (cfg : Cfg) (c : Conn) (chunk : List Nat) (hc : Stable cfg c) : Stable cfg (feed cfg c chunk) := by
  unfold feed
  by_cases hcl : c.closed = true
  · simp only [hcl, if_true]; exact hc
  · simp only [hcl, Bool.false_eq_true, if_false]
    cases he : (loop cfg ((c.win ++ chunk).length + 1) c.sess (c.win ++ chunk)).2.2 with
    | true => left; simp
    | false =>
      right
      have := loop_rest_more cfg _ c.sess (c.win ++ chunk) (Nat.lt_succ_self _) he
      simpa using this

theorem feed_feed (cfg : Cfg) (c : Conn) (a b : List Nat) :
    feed cfg (feed cfg c a) b = feed cfg c (a ++ b) := by
  unfold feed
  by_cases hcl : c.closed = true
  · simp [hcl]
  · simp only [hcl, Bool.false_eq_true, if_false]
    have hs := loop_split cfg ((c.win ++ a).length + 1) c.sess (c.win ++ a) b (Nat.lt_succ_self _)
    rw [append_assoc] at hs
    rw [hs]
    rcases hl : loop cfg ((c.win ++ a).length + 1) c.sess (c.win ++ a) with ⟨s1, r1, e1⟩
    cases e1 with
    | true =>
      have := loop_err_rest cfg _ c.sess (c.win ++ a) (by rw [hl])
      rw [hl] at this
      simp only at this
      subst this
      simp
    | false => simp

theorem feed_nil_stable (cfg : Cfg) (c : Conn) (hc : Stable cfg c) : feed cfg c [] = c := by
  unfold feed
  by_cases hcl : c.closed = true
  · simp [hcl]
  · simp only [hcl, Bool.false_eq_true, if_false, append_nil]
    rcases hc with h | h
    · exact absurd h hcl
    · simp only [loop, h]
      cases c; simp_all

theorem feedAll_eq_feed (cfg : Cfg) : ∀ (chunks : List (List Nat)) (c : Conn), Stable cfg c →
    feedAll cfg c chunks = feed cfg c chunks.flatten := by
  intro chunks
  induction chunks with
  | nil => intro c hc; simp [feedAll, feed_nil_stable cfg c hc]
  | cons a r ih =>
    intro c hc
    simp only [feedAll, foldl_cons, flatten_cons]
    have := ih (feed cfg c a) (feed_stable cfg c a hc)
    simp only [feedAll] at this
    rw [this, feed_feed]

end Events

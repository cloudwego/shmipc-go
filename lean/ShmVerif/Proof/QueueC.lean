import ShmVerif.Model.QueueC
import ShmVerif.Proof.Lists
/-!
  Inductive invariant of the access-granular queue model, for every interleaving of any number of producers
  with the consumer, every capacity and every cursor base (wrap-around included).
-/
namespace QueueC

def rget (r : List Elem) (j : Nat) : Elem := r.getD j default

/-- the model's spelling of the slot a cursor designates -/
theorem getD_idx (s : State) (i : Nat) : s.ring.getD (s.idx i) default = rget s.ring (i % s.cap) := rfl

theorem rget_modify (r : List Elem) (i j : Nat) (f : Elem → Elem) :
    rget (r.modify i f) j = if i = j ∧ j < r.length then f (rget r j) else rget r j :=
  List.getD_modify r i j f default

theorem rget_modify_self {r : List Elem} {i : Nat} (f : Elem → Elem) (h : i < r.length) :
    rget (r.modify i f) i = f (rget r i) := by
  rw [rget_modify, if_pos ⟨rfl, h⟩]

theorem mod_ne_of_window {c i j : Nat} (hij : i < j) (hw : j < i + c) : i % c ≠ j % c :=
  fun h => Nat.ne_of_lt hij (Nat.eq_of_mod_eq_of_lt_add (Nat.le_of_lt hij) hw h)

def CritInv (s : State) : Prop :=
  match s.crit with
  | none => True
  | some c =>
    match c.pc with
    | .ldTail => True
    | .ldHead => c.tl = s.tail
    | .st0 => c.tl = s.tail ∧ s.tail < s.head + s.cap
    | .st1 => c.tl = s.tail ∧ s.tail < s.head + s.cap ∧ (rget s.ring (s.tail % s.cap)).seq = c.e.seq
    | .st2 => c.tl = s.tail ∧ s.tail < s.head + s.cap ∧ (rget s.ring (s.tail % s.cap)).seq = c.e.seq
                ∧ (rget s.ring (s.tail % s.cap)).off = c.e.off
    | .addTail => c.tl = s.tail ∧ s.tail < s.head + s.cap ∧ rget s.ring (s.tail % s.cap) = c.e
    | .unlockOk => True
    | .unlockFull => True

def ConsInv (s : State) : Prop :=
  match s.cons.pc with
  | .ldHead => True
  | .ldTail => s.cons.h = s.head
  | .ld0 => s.cons.h = s.head ∧ s.head < s.tail
  | .ld1 => s.cons.h = s.head ∧ s.head < s.tail ∧ s.cons.e.seq = (s.enq.getD s.head default).seq
  | .ld2 => s.cons.h = s.head ∧ s.head < s.tail ∧ s.cons.e.seq = (s.enq.getD s.head default).seq
              ∧ s.cons.e.off = (s.enq.getD s.head default).off
  | .addHead => s.cons.h = s.head ∧ s.head < s.tail ∧ s.cons.e = s.enq.getD s.head default

structure Inv (s : State) : Prop where
  ringLen : s.ring.length = s.cap
  hle : s.head ≤ s.tail
  bounded : s.tail ≤ s.head + s.cap
  enqLen : s.enq.length = s.tail
  deqEq : s.deq = s.enq.take s.head
  window : ∀ i, s.head ≤ i → i < s.tail → rget s.ring (i % s.cap) = s.enq.getD i default
  crit : CritInv s
  cons : ConsInv s

theorem inv_init (cap base : Nat) (prods : List (List Elem)) (pops : Nat) :
    Inv (init cap base prods pops) := by
  constructor <;> simp [init, CritInv, ConsInv]
  intro i h1 h2; omega

theorem elem_ext {a b : Elem} (h1 : a.seq = b.seq) (h2 : a.off = b.off) (h3 : a.st = b.st) : a = b := by
  cases a; cases b; simp_all

/-- a store by the lock holder into slot `tail % cap` does not disturb the published window -/
theorem window_store (s : State) (f : Elem → Elem) (h : Inv s) (hlt : s.tail < s.head + s.cap) :
    ∀ i, s.head ≤ i → i < s.tail →
      rget (s.ring.modify (s.tail % s.cap) f) (i % s.cap) = s.enq.getD i default := by
  intro i h1 h2
  rw [rget_modify, if_neg fun e => mod_ne_of_window h2 (by omega) e.1.symm]
  exact h.window i h1 h2

/-- a step of the lock holder that touches neither cursors nor ring: only its own obligation has to be re-established -/
theorem Inv.of_crit {s : State} (h : Inv s) (c' : Option Crit) (prods' : List (List Elem)) (pres' : List (Nat × Res))
    (hc : CritInv { s with crit := c', prods := prods', pres := pres' }) :
    Inv { s with crit := c', prods := prods', pres := pres' } :=
  ⟨h.ringLen, h.hle, h.bounded, h.enqLen, h.deqEq, h.window, hc, h.cons⟩

/-- a store by the lock holder into the slot behind the published window -/
theorem Inv.store {s : State} (h : Inv s) (hlt : s.tail < s.head + s.cap) (f : Elem → Elem) (c' : Crit)
    (hc : CritInv { s with ring := s.ring.modify (s.tail % s.cap) f, crit := some c' }) :
    Inv { s with ring := s.ring.modify (s.tail % s.cap) f, crit := some c' } :=
  ⟨by simp [h.ringLen], h.hle, h.bounded, h.enqLen, h.deqEq, window_store s f h hlt, hc, h.cons⟩

theorem Inv.slot_lt {s : State} (h : Inv s) (hlt : s.tail < s.head + s.cap) : s.tail % s.cap < s.ring.length := by
  rw [h.ringLen]; exact Nat.mod_lt _ (by have := h.hle; omega)

theorem stepProd_inv (s : State) (t : Nat) (h : Inv s) : Inv (stepProd s t).1 := by
  unfold stepProd
  cases hc : s.crit with
  | none =>
    dsimp only
    split
    · exact h.of_crit _ _ _ trivial
    · exact h
  | some c =>
    dsimp only
    have hcrit := h.crit
    simp only [CritInv, hc] at hcrit
    split
    · split <;> exact h
    · cases hpc : c.pc <;> simp only [hpc] at hcrit <;> dsimp only
      case ldTail => exact h.of_crit _ _ _ rfl
      case ldHead =>
        split
        · exact h.of_crit _ _ _ trivial
        · exact h.of_crit _ _ _ (show _ ∧ s.tail < s.head + s.cap from ⟨hcrit, by omega⟩)
      case st0 =>
        obtain ⟨htl, hlt⟩ := hcrit
        rw [htl]
        refine h.store hlt _ _ (show _ ∧ _ ∧ _ from ⟨rfl, hlt, ?_⟩)
        rw [rget_modify_self _ (h.slot_lt hlt)]
      case st1 =>
        obtain ⟨htl, hlt, hseq⟩ := hcrit
        rw [htl]
        refine h.store hlt _ _ (show _ ∧ _ ∧ _ ∧ _ from ⟨rfl, hlt, ?_, ?_⟩) <;> rw [rget_modify_self _ (h.slot_lt hlt)]
        exact hseq
      case st2 =>
        obtain ⟨htl, hlt, hseq, hoff⟩ := hcrit
        rw [htl]
        refine h.store hlt _ _ (show _ ∧ _ ∧ _ from ⟨rfl, hlt, ?_⟩)
        rw [rget_modify_self _ (h.slot_lt hlt)]
        exact elem_ext hseq hoff rfl
      case addTail =>
        obtain ⟨htl, hlt, hslot⟩ := hcrit
        have hlen : s.head ≤ s.enq.length := h.enqLen ▸ h.hle
        -- what was published below `tail` is not moved by the append
        have hold : ∀ i, i < s.tail → (s.enq ++ [c.e]).getD i default = s.enq.getD i default := fun i hi => by
          simp [List.getD_eq_getElem?_getD, List.getElem?_append_left (h.enqLen ▸ hi)]
        refine ⟨h.ringLen, Nat.le_succ_of_le h.hle, hlt, by simp [h.enqLen], ?_, ?_, trivial, ?_⟩
        · show s.deq = (s.enq ++ [c.e]).take s.head
          rw [List.take_append_of_le_length hlen, h.deqEq]
        · intro i h1 (h2 : i < s.tail + 1)
          show rget s.ring (i % s.cap) = (s.enq ++ [c.e]).getD i default
          by_cases hi : i < s.tail
          · rw [hold i hi, h.window i h1 hi]
          · obtain rfl : i = s.tail := by omega
            rw [hslot]; simp [List.getD_eq_getElem?_getD, h.enqLen]
        · -- the consumer only ever looks at `enq[head]` when `head < tail`
          have hcons := h.cons
          cases hp : s.cons.pc <;> simp only [ConsInv, hp] at hcons ⊢
          · exact hcons
          · exact ⟨hcons.1, by omega⟩
          · exact ⟨hcons.1, by omega, by rw [hold _ hcons.2.1]; exact hcons.2.2⟩
          · exact ⟨hcons.1, by omega, by rw [hold _ hcons.2.1]; exact hcons.2.2.1, by rw [hold _ hcons.2.1]; exact hcons.2.2.2⟩
          · exact ⟨hcons.1, by omega, by rw [hold _ hcons.2.1]; exact hcons.2.2⟩
      case unlockOk | unlockFull => exact h.of_crit _ _ _ trivial

theorem critInv_headSucc (s : State) (h : CritInv s) (cons' : Cons) (pops' : Nat) (deq' : List Elem) (cres' : List Res) :
    CritInv { s with head := s.head + 1, cons := cons', pops := pops', deq := deq', cres := cres' } := by
  unfold CritInv at *
  cases hc : s.crit with
  | none => simp
  | some c =>
    simp only [hc] at h ⊢
    cases hpc : c.pc <;> simp only [hpc] at h ⊢
    case ldHead => exact h
    case st0 => exact ⟨h.1, by omega⟩
    case st1 | st2 | addTail => exact ⟨h.1, by omega, h.2.2⟩

/-- a step of the consumer that only changes its locals and counters -/
theorem Inv.of_cons {s : State} (h : Inv s) (c' : Cons) (pops' : Nat) (cres' : List Res)
    (hc : ConsInv { s with cons := c', pops := pops', cres := cres' }) :
    Inv { s with cons := c', pops := pops', cres := cres' } :=
  ⟨h.ringLen, h.hle, h.bounded, h.enqLen, h.deqEq, h.window, h.crit, hc⟩

theorem stepCons_inv (s : State) (h : Inv s) : Inv (stepCons s).1 := by
  unfold stepCons
  split
  · exact h
  · have hcons := h.cons
    dsimp only
    cases hpc : s.cons.pc <;> simp only [ConsInv, hpc] at hcons <;> dsimp only
    case ldHead => exact h.of_cons _ _ _ rfl
    case ldTail =>
      split
      · exact h.of_cons _ _ _ trivial
      · exact h.of_cons _ _ _ (show _ ∧ s.head < s.tail from ⟨hcons, by omega⟩)
    case ld0 =>
      have := h.window s.head (Nat.le_refl _) hcons.2
      exact h.of_cons _ _ _ (show _ ∧ _ ∧ _ from ⟨hcons.1, hcons.2, by rw [getD_idx, hcons.1, this]⟩)
    case ld1 =>
      have := h.window s.head (Nat.le_refl _) hcons.2.1
      exact h.of_cons _ _ _ (show _ ∧ _ ∧ _ ∧ _ from ⟨hcons.1, hcons.2.1, hcons.2.2, by rw [getD_idx, hcons.1, this]⟩)
    case ld2 =>
      have := h.window s.head (Nat.le_refl _) hcons.2.1
      exact h.of_cons _ _ _ (show _ ∧ _ ∧ _ from
        ⟨hcons.1, hcons.2.1, elem_ext hcons.2.2.1 hcons.2.2.2 (by rw [getD_idx, hcons.1, this])⟩)
    case addHead =>
      obtain ⟨a, b, c⟩ := hcons
      refine ⟨h.ringLen, b, by have := h.bounded; show s.tail ≤ s.head + 1 + s.cap; omega, h.enqLen, ?_,
        fun i h1 h2 => h.window i (Nat.le_of_succ_le h1) h2, critInv_headSucc s h.crit _ _ _ _, trivial⟩
      show s.deq ++ [s.cons.e] = s.enq.take (s.head + 1)
      have hlt : s.head < s.enq.length := h.enqLen ▸ b
      rw [h.deqEq, c, List.take_add_one]
      simp [List.getD_eq_getElem?_getD, List.getElem?_eq_getElem hlt]

theorem step_inv (s : State) (w : Who) (h : Inv s) : Inv (step s w) := by
  cases w with
  | none => exact stepCons_inv s h
  | some t => exact stepProd_inv s t h

theorem run_inv (s : State) (sched : List Who) (h : Inv s) : Inv (run s sched) :=
  List.foldlRecOn sched step h fun s hb w _ => step_inv s w hb

end QueueC

import ShmVerif.Model.Wake
import ShmVerif.Proof.Lists
/-! Inductive invariant of the wake-up protocol: any number of producers, every interleaving. -/
namespace Wake
open List

def HasPc (l : List Prod) (pc : PPc) : Prop := ∃ p ∈ l, p.pc = pc

theorem hasPc_set_new (l : List Prod) (t : Nat) (p : Prod) (pc : PPc) (ht : t < l.length) (hp : p.pc = pc) :
    HasPc (l.set t p) pc := ⟨p, mem_set ht _, hp⟩

theorem hasPc_set_keep (l : List Prod) (t : Nat) (old p : Prod) (pc : PPc) (hold : l[t]? = some old)
    (hne : old.pc ≠ pc) (h : HasPc l pc) : HasPc (l.set t p) pc := by
  obtain ⟨a, b, rfl, hs, _⟩ := getElem?_split hold
  obtain ⟨q, hq, hqpc⟩ := h
  refine ⟨q, ?_, hqpc⟩
  rw [hs]
  rcases mem_append.mp hq with hq | hq
  · exact mem_append_left _ hq
  · rcases mem_cons.mp hq with rfl | hq
    · exact absurd hqpc hne
    · exact mem_append_right _ (mem_cons_of_mem _ hq)

structure Inv (s : State) : Prop where
  /-- a set flag seen while the consumer is (about to be) idle is backed by a notification -/
  flagBacked : s.flag = true → (s.cons = .idle ∨ s.cons = .check ∨ s.cons = .store1) →
      s.inflight > 0 ∨ HasPc s.prods .write
  /-- elements behind a cleared flag are either being looked at by the consumer or about to be announced -/
  clearCovered : s.qlen > 0 → s.flag = false → s.cons ≠ .idle ∨ HasPc s.prods .cas

theorem inv_init (cap : Nat) (counts : List Nat) : Inv (init cap counts) := by
  constructor <;> simp [init]

theorem stepProd_inv (s : State) (t : Nat) (h : Inv s) : Inv (stepProd s t).1 := by
  unfold stepProd
  cases hp : s.prods[t]? with
  | none => exact h
  | some p =>
    have ⟨ht, _⟩ := List.getElem?_eq_some_iff.mp hp
    -- a witness at `.write` / `.cas` other than `t` survives the update of `t`
    have keep : ∀ {pc}, p.pc ≠ pc → ∀ q, HasPc s.prods pc → HasPc (s.prods.set t q) pc :=
      fun hne q => hasPc_set_keep _ _ p q _ hp hne
    dsimp only
    cases hpc : p.pc <;> dsimp only
    case done => exact h
    case put =>
      have hw := keep (pc := .write) (by simp [hpc])
      split
      · exact ⟨fun hf hc => (h.flagBacked hf hc).imp_right (hw _), fun _ _ => Or.inr (hasPc_set_new _ _ _ _ ht rfl)⟩
      · exact ⟨fun hf hc => (h.flagBacked hf hc).imp_right (hw _),
          fun hq hf => (h.clearCovered hq hf).imp_right (keep (by simp [hpc]) _)⟩
    case cas =>
      split
      · rename_i hflag
        exact ⟨fun hf hc => (h.flagBacked hf hc).imp_right (keep (by simp [hpc]) _),
          fun _ (hf : s.flag = false) => absurd hflag (by simp [hf])⟩
      · split
        · exact ⟨fun _ _ => Or.inl (Nat.succ_pos _), fun _ hf => nomatch hf⟩
        · exact ⟨fun _ _ => Or.inr (hasPc_set_new _ _ _ _ ht rfl), fun _ hf => nomatch hf⟩
    case write =>
      exact ⟨fun _ _ => Or.inl (Nat.succ_pos _), fun hq hf => (h.clearCovered hq hf).imp_right (keep (by simp [hpc]) _)⟩

/-- with the consumer at `pop` or `store0` the invariant asks nothing: `flagBacked` speaks of the other three pcs,
    `clearCovered` holds by its left disjunct -/
theorem Inv.of_busy {s : State} (h : s.cons = .pop ∨ s.cons = .store0) : Inv s :=
  ⟨fun _ hc => by rcases h with h | h <;> rw [h] at hc <;> simp at hc,
   fun _ _ => Or.inl (by rcases h with h | h <;> simp [h])⟩

theorem stepCons_inv (s : State) (h : Inv s) : Inv (stepCons s).1 := by
  unfold stepCons
  cases hc : s.cons <;> simp only
  case idle =>
    split
    · exact Inv.of_busy (Or.inl rfl)
    · exact h
  case pop =>
    split
    · exact Inv.of_busy (Or.inl rfl)
    · exact Inv.of_busy (Or.inr rfl)
  case store0 => exact ⟨fun hf _ => (nomatch hf), fun _ _ => Or.inl (by simp)⟩
  case check =>
    split
    · rename_i hq
      exact ⟨fun hf _ => h.flagBacked hf (Or.inr (Or.inl hc)), fun (hq' : s.qlen > 0) _ => by omega⟩
    · exact ⟨fun hf _ => h.flagBacked hf (Or.inr (Or.inl hc)), fun _ _ => Or.inl (by simp)⟩
  case store1 => exact Inv.of_busy (Or.inl rfl)

theorem step_inv (s : State) (w : Who) (h : Inv s) : Inv (step s w) := by
  cases w with
  | none => exact stepCons_inv s h
  | some t => exact stepProd_inv s t h

theorem run_inv (s : State) (sched : List Who) (h : Inv s) : Inv (run s sched) :=
  List.foldlRecOn sched step h fun s hb w _ => step_inv s w hb

end Wake

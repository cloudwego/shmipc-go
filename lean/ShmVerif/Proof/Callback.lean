import ShmVerif.Model.Callback
import ShmVerif.Proof.Lists
/-!
  The two invariants of the callback-mode hand-off model, for every schedule: `Inv` (who owns the read buffer, no byte
  stranded, Close is honoured, byte accounting) and `NInv` (who closes, and how often the peer is told).  Everything about
  the list of goroutines is phrased as `countP` of a predicate, so that one step of goroutine `i` rewrites every count as
  `count over the others + [predicate of the new pc]` and linear arithmetic finishes.
-/
namespace Callback
open List

theorem countP_split {α : Type} (P : α → Bool) : ∀ (l : List α) (i : Nat) (x : α), l[i]? = some x →
    l.countP P = (l.eraseIdx i).countP P + (if P x then 1 else 0) := by
  intro l i x h
  obtain ⟨a, b, rfl, _, he⟩ := getElem?_split h
  simp only [he, countP_append, countP_cons]; omega

theorem countP_set_split {α : Type} (P : α → Bool) : ∀ (l : List α) (i : Nat) (x a : α), l[i]? = some x →
    (l.set i a).countP P = (l.eraseIdx i).countP P + (if P a then 1 else 0) := by
  intro l i x y h
  obtain ⟨a, b, rfl, hs, he⟩ := getElem?_split h
  simp only [hs, he, countP_append, countP_cons]; omega

def isIn : GPc → Bool | .in3 | .in2 | .in1 => true | _ => false
/-- will look at the read buffer again -/
def wB : GPc → Bool | .loadState | .in3 | .in2 | .in1 => true | _ => false
/-- will look at the pending list again (or close the stream) -/
def wC : GPc → Bool | .loadClose | .recheck | .closeLoad | .closeCas _ => true | _ => false
/-- will honour a close request -/
def wJ : GPc → Bool
  | .start | .loadState | .in3 | .in2 | .in1 | .store0 | .loadClose | .closeLoad | .closeCas _ => true
  | _ => false
def isClosing : GPc → Bool | .waitG _ | .cleaning _ => true | _ => false
def uWJ : UPc → Bool | .loadIn | .closeLoad | .closeCas _ => true | _ => false
def uClosing : UPc → Bool | .waitG _ | .cleaning _ => true | _ => false

def b2n (b : Bool) : Nat := if b then 1 else 0

structure Inv (s : State) : Prop where
  act : s.gs.countP GPc.active = b2n s.inProcess       -- exactly one goroutine owns the read buffer while the flag is set
  inOn : s.inOnData = s.gs.countP isIn
  maxOn : s.maxOnData ≤ 1                               -- OnData never ran twice at once (with `act`: isIn ≤ active ≤ 1)
  -- no byte is stranded: what sits in the read buffer / the pending list of an open stream has a thread that will look
  wb : s.state = .opened → 0 < s.recv → 0 < s.gs.countP wB
  wc : s.state = .opened → 0 < s.pending → s.inProcess = false → (s.e = .dataLoad ∨ s.e = .dataCas) ∨ 0 < s.gs.countP wC
  -- Close is final: a close request on a stream not yet closed has a thread that will honour it
  wj : s.closeReq = true → s.state ≠ .closed → 0 < s.gs.countP wJ ∨ uWJ s.u = true
  closing : (0 < s.gs.countP isClosing ∨ uClosing s.u = true) → s.state = .closed
  cons : s.arrived = s.consumed + s.recv + s.pending + s.dropped
  off1 : s.consumed ≤ s.offered
  drop0 : s.state ≠ .closed → s.dropped = 0            -- bytes are only dropped by a close

theorem inv_init : Inv init := by
  constructor <;> simp [init, b2n, uWJ, uClosing]

theorem isIn_le_active (l : List GPc) : l.countP isIn ≤ l.countP GPc.active :=
  countP_mono_left (by intro x _; cases x <;> simp [GPc.active, isIn])

/-- how often `close()` notifies: once for a stream that was open, not for one the peer had closed -/
def notes (old : St) : Nat := if old = .opened ∨ old = .localClosing then 1 else 0

theorem closeEffects_eq (s : State) (old : St) : closeEffects s old =
    { s with dropped := s.dropped + s.pending + s.recv, pending := 0, recv := 0,
             onLocal := s.onLocal + notes old, notified := s.notified + notes old } := by
  unfold closeEffects notes; split <;> rfl

theorem inv_stepE {s : State} (h : Inv s) (cmd : ECmd) : Inv (stepE s cmd) := by
  obtain ⟨act, inOn, maxOn, wb, wc, wj, closing, cons, off1, drop0⟩ := h
  unfold stepE
  cases he : s.e with
  | idle =>
    cases cmd with
    | none => exact ⟨act, inOn, maxOn, wb, wc, wj, closing, cons, off1, drop0⟩
    | data n =>
      refine ⟨act, inOn, maxOn, wb, ?_, wj, closing, ?_, off1, drop0⟩
      · intro _ _ _; left; left; rfl
      · simp only; omega
    | pclose =>
      exact ⟨act, inOn, maxOn, wb, fun h1 h2 h3 => .inr ((wc h1 h2 h3).resolve_left (by simp [he])), wj, closing, cons, off1, drop0⟩
  | dataLoad =>
    simp only
    split
    · rename_i hc
      refine ⟨act, inOn, maxOn, ?_, ?_, wj, closing, ?_, off1, ?_⟩
      · intro h1; simp at h1 ⊢
      · intro h1 h2; simp at h2
      · simp only; omega
      · intro h1; exact absurd hc h1
    · refine ⟨act, inOn, maxOn, wb, ?_, wj, closing, cons, off1, drop0⟩
      intro _ _ _; left; right; rfl
  | dataCas =>
    simp only
    split
    · rename_i hp
      refine ⟨act, inOn, maxOn, wb, ?_, wj, closing, cons, off1, drop0⟩
      intro _ _ h3; simp [hp] at h3
    · rename_i hp
      refine ⟨?_, ?_, maxOn, ?_, ?_, ?_, ?_, cons, off1, drop0⟩
      · simp [List.countP_append, act, b2n, hp, GPc.active]
      · simp [List.countP_append, inOn, isIn]
      · intro h1 h2; have := wb h1 h2; simp [List.countP_append]; omega
      · intro _ _ h3; simp at h3
      · intro h1 h2; left; simp [List.countP_append, wJ]
      · intro h1; apply closing; simpa [List.countP_append, isClosing] using h1
  | pcloseCas =>
    simp only
    split
    · refine ⟨act, inOn, maxOn, ?_, ?_, ?_, ?_, cons, off1, ?_⟩
      · intro h1; simp at h1
      · intro h1; simp at h1
      · intro h1 h2; exact wj h1 (by simp_all)
      · intro h1; have := closing h1; simp_all
      · intro _; apply drop0; simp_all
    · exact ⟨act, inOn, maxOn, wb, fun h1 h2 h3 => .inr ((wc h1 h2 h3).resolve_left (by simp [he])), wj, closing, cons, off1, drop0⟩

theorem inv_closeEffects {s : State} (h : Inv s) (hc : s.state = .closed) (old : St) : Inv (closeEffects s old) := by
  obtain ⟨act, inOn, maxOn, wb, wc, wj, closing, cons, off1, drop0⟩ := h
  rw [closeEffects_eq]
  refine ⟨act, inOn, maxOn, ?_, ?_, wj, closing, ?_, off1, ?_⟩
  · intro h; simp [hc] at h
  · intro h; simp [hc] at h
  · simp only; omega
  · intro h; exact absurd hc h

theorem inv_setU {s : State} (h : Inv s) (pc : UPc)
    (hj : s.closeReq = true → s.state ≠ .closed → uWJ s.u = true → uWJ pc = true ∨ 0 < s.gs.countP wJ)
    (hcl : uClosing pc = true → s.state = .closed) : Inv { s with u := pc } := by
  obtain ⟨act, inOn, maxOn, wb, wc, wj, closing, cons, off1, drop0⟩ := h
  exact ⟨act, inOn, maxOn, wb, wc, fun h1 h2 => (wj h1 h2).elim .inl fun h => (hj h1 h2 h).symm,
    fun h1 => h1.elim (fun h => closing (.inl h)) hcl, cons, off1, drop0⟩

theorem inv_stepU {s : State} (h : Inv s) : Inv (stepU s) := by
  unfold stepU
  cases hu : s.u with
  | start => exact inv_setU h _ (by simp [hu, uWJ]) (by simp [uClosing])
  | store =>
    obtain ⟨act, inOn, maxOn, wb, wc, wj, closing, cons, off1, drop0⟩ := h
    refine ⟨act, inOn, maxOn, wb, wc, fun _ _ => Or.inr (by simp [uWJ]), ?_, cons, off1, drop0⟩
    intro h1; apply closing; simpa [uClosing, hu] using h1
  | loadIn =>
    simp only
    split
    · rename_i hp
      refine inv_setU h _ ?_ (by simp [uClosing])
      intro _ _ _; right
      have h1 : s.gs.countP GPc.active ≤ s.gs.countP wJ := countP_mono_left (by intro x _; cases x <;> simp [GPc.active, wJ])
      have h2 := h.act
      simp [hp, b2n] at h2; omega
    · exact inv_setU h _ (by simp [uWJ]) (by simp [uClosing])
  | casHalf =>
    simp only
    split
    · rename_i hs
      obtain ⟨act, inOn, maxOn, wb, wc, wj, closing, cons, off1, drop0⟩ := h
      refine ⟨act, inOn, maxOn, ?_, ?_, ?_, ?_, cons, off1, ?_⟩
      · intro h1; simp at h1
      · intro h1; simp at h1
      · exact fun h1 _ => .inl ((wj h1 (by simp [hs])).resolve_right (by simp [hu, uWJ]))
      · intro h1
        rcases h1 with h1 | h1
        · have := closing (Or.inl h1); simp [hs] at this
        · simp [uClosing] at h1
      · intro _; exact drop0 (by simp [hs])
    · exact inv_setU h _ (by simp [hu, uWJ]) (by simp [uClosing])
  | closeLoad =>
    simp only
    split
    · rename_i hs
      exact inv_setU h _ (by intro _ h2; exact absurd hs h2) (by simp [uClosing])
    · exact inv_setU h _ (by simp [uWJ]) (by simp [uClosing])
  | closeCas old =>
    simp only
    split
    · rename_i hs
      have h' : Inv { s with state := .closed } := by
        obtain ⟨act, inOn, maxOn, wb, wc, wj, closing, cons, off1, drop0⟩ := h
        refine ⟨act, inOn, maxOn, ?_, ?_, ?_, fun _ => rfl, cons, off1, ?_⟩
        · intro h1; simp at h1
        · intro h1; simp at h1
        · intro _ h2; simp at h2
        · intro h2; simp at h2
      split <;> exact inv_setU h' _ (by intro _ h2; simp at h2) (by simp)
    · exact inv_setU h _ (by simp [uWJ]) (by simp [uClosing])
  | waitG old =>
    have hc : s.state = .closed := h.closing (Or.inr (by simp [hu, uClosing]))
    simp only
    split
    · exact inv_setU h _ (by intro _ h2; exact absurd hc h2) (fun _ => hc)
    · exact h
  | cleaning old =>
    have hc : s.state = .closed := h.closing (Or.inr (by simp [hu, uClosing]))
    exact inv_setU (inv_closeEffects h hc old) _ (by intro _ h2; rw [closeEffects_eq] at h2; exact absurd hc h2) (by simp [uClosing])
  | done => simpa [hu] using h

theorem inv_stepG {s : State} (h : Inv s) (i : Nat) (od : OnData) : Inv (stepG s i od) := by
  unfold stepG
  split
  · exact h
  · rename_i pc hg
    have mIA := isIn_le_active (s.gs.eraseIdx i)
    have h0 := h
    obtain ⟨act, inOn, maxOn, wb, wc, wj, closing, cons, off1, drop0⟩ := h
    -- Every count, before and after, is the count over the other goroutines plus the predicate at `pc` / the new pc;
    -- with the predicates evaluated in each branch, most clauses are linear arithmetic over those rest counts.
    -- `grind` takes the few that chain clauses: `maxOn` when OnData starts (nobody else is inside: isIn ≤ active, `act`),
    -- `act` at `store0`, and `wb` / `wc` / `wj` / `closing` where the stepping thread itself was the one the clause relied
    -- on, so that the branch condition (buffer empty, nothing pending, no close request, state closed) must falsify the premise.
    simp only [fun P => countP_split P s.gs i pc hg] at act inOn wb wc wj closing
    have cs := fun P a => countP_set_split P s.gs i pc a hg
    cases pc <;> simp only [setG, moveTo, closeEffects_eq, set_set] <;> (repeat' split) <;> first | exact h0 | skip
    all_goals simp only [GPc.active, isIn, wB, wC, wJ, isClosing, if_true, if_false, Bool.false_eq_true, Nat.add_zero] at act inOn wb wc wj closing
    all_goals constructor <;> (try simp only [cs, GPc.active, isIn, wB, wC, wJ, isClosing, if_true, if_false, Bool.false_eq_true, Nat.add_zero])
      <;> first | omega | grind [b2n]

theorem inv_step {s : State} (h : Inv s) (st : Step) : Inv (step s st) := by
  cases st with
  | e cmd => exact inv_stepE h cmd
  | g i od => exact inv_stepG h i od
  | u => exact inv_stepU h

theorem inv_run {s : State} (h : Inv s) (sched : List Step) : Inv (run s sched) :=
  foldlRecOn sched step h fun _ hb st _ => inv_step hb st

/-- everything OnData was shown had arrived -/
theorem off2_step {s : State} (h : Inv s) (h2 : s.offered ≤ s.arrived) (st : Step) : (step s st).offered ≤ (step s st).arrived := by
  have hc := h.cons
  cases st with
  | e cmd =>
    simp only [step, stepE]
    repeat' split
    all_goals (try simp only [])
    all_goals omega
  | g i od =>
    simp only [step, stepG]
    repeat' split
    all_goals (try simp only [setG, moveTo, closeEffects_eq])
    all_goals (try omega)
    all_goals (simp only [Nat.max_def]; split <;> omega)
  | u =>
    simp only [step, stepU]
    repeat' split
    all_goals (try simp only [closeEffects_eq])
    all_goals omega

theorem off2_run {s : State} (h : Inv s) (h2 : s.offered ≤ s.arrived) (sched : List Step) :
    (run s sched).offered ≤ (run s sched).arrived :=
  (foldlRecOn (motive := fun s => Inv s ∧ s.offered ≤ s.arrived) sched step ⟨h, h2⟩
    fun _ hb st _ => ⟨inv_step hb.1 st, off2_step hb.1 hb.2 st⟩).2

theorem closed_step {s : State} (hc : s.state = .closed) (st : Step) : (step s st).state = .closed ∧ (step s st).calls = s.calls := by
  cases st with
  | e cmd =>
    simp only [step, stepE]
    repeat' split
    all_goals simp_all
  | g i od =>
    simp only [step, stepG]
    repeat' split
    all_goals simp_all [setG, moveTo, closeEffects_eq]
  | u =>
    simp only [step, stepU]
    repeat' split
    all_goals simp_all [closeEffects_eq]

/-! ### who closes, and how often the peer is told

  (Repaired code: a Close issued while a callback goroutine is in process leaves the distinct state `localClosing`,
  so the goroutine that finishes the close still notifies the peer and calls OnLocalClose.) -/

/-- inside `close()` with `st` as the state it loaded -/
def carries (st : St) : GPc → Bool | .closeCas o | .waitG o | .cleaning o => o == st | _ => false
def uCarries (st : St) : UPc → Bool | .closeCas o | .waitG o | .cleaning o => o == st | _ => false

/-- threads (goroutines and the user) that won the CAS to `closed` and have not yet run `clean` -/
def closers (s : State) : Nat := s.gs.countP isClosing + b2n (uClosing s.u)
/-- threads inside `close()` that loaded the state `st` -/
def carrying (st : St) (s : State) : Nat := s.gs.countP (carries st) + b2n (uCarries st s.u)

/-- Only one thread ever wins the CAS to `closed`; it carries the state it replaced (never `closed`, and `half` only
    after a peer close), and `clean` notifies iff that state was not `half`. -/
structure NInv (s : State) : Prop where
  bad : carrying .closed s = 0                          -- nobody attempts the CAS `closed → closed`
  nhalf : s.onRemote = 0 → s.state ≠ .half ∧ carrying .half s = 0
  nopen : s.state ≠ .closed → closers s + s.notified = 0
  once : closers s + s.notified ≤ 1                     -- the winner of the CAS, then its one notification
  nclosed : s.state = .closed → s.onRemote = 0 → closers s + s.notified = 1
  nl : s.onLocal = s.notified

theorem ninv_init : NInv init := by
  constructor <;> simp [init, closers, carrying, b2n, uClosing, uCarries]

/-! What a step can do to the quantities `NInv` speaks of: nothing (`same`: at most `opened → localClosing`, or a thread
    gives up the state it carried), one of the three moves of `close()` (`load`, `casOk`, `clean`), or the peer's close.
    The step lemmas below only say which of these each branch is. -/

theorem NInv.same {s s' : State} (h : NInv s) (hst : s'.state = s.state ∨ s.state = .opened ∧ s'.state = .localClosing)
    (hr : s'.onRemote = s.onRemote) (hn : s'.notified = s.notified) (hl : s'.onLocal = s.onLocal)
    (hc : closers s' = closers s) (hx : ∀ st, carrying st s' ≤ carrying st s) : NInv s' := by
  obtain ⟨bad, nhalf, nopen, once, nclosed, nl⟩ := h
  have hb := hx .closed; have hh := hx .half
  refine ⟨by omega, fun e => ?_, fun e => ?_, by omega, fun e1 e2 => ?_, by omega⟩
  · have := nhalf (hr ▸ e)
    rcases hst with e' | ⟨_, e'⟩ <;> rw [e']
    · exact ⟨this.1, by omega⟩
    · exact ⟨by simp, by omega⟩
  · rw [hc, hn]
    rcases hst with e' | ⟨e', _⟩
    · exact nopen (e' ▸ e)
    · exact nopen (by simp [e'])
  · rw [hc, hn]
    rcases hst with e' | ⟨_, e'⟩
    · exact nclosed (e' ▸ e1) (hr ▸ e2)
    · rw [e'] at e1; cases e1

/-- `close()` loads the state and finds it not `closed` -/
theorem NInv.load {s s' : State} (h : NInv s) (hne : s.state ≠ .closed) (hst : s'.state = s.state)
    (hr : s'.onRemote = s.onRemote) (hn : s'.notified = s.notified) (hl : s'.onLocal = s.onLocal)
    (hc : closers s' = closers s) (hx : ∀ st, st ≠ s.state → carrying st s' ≤ carrying st s) : NInv s' := by
  obtain ⟨bad, nhalf, nopen, once, nclosed, nl⟩ := h
  refine ⟨by have := hx .closed (Ne.symm hne); omega, fun e => ?_, fun _ => by rw [hc, hn]; exact nopen hne, by omega,
    fun e => absurd (hst ▸ e) hne, by omega⟩
  have := nhalf (hr ▸ e)
  exact ⟨hst ▸ this.1, by have := hx .half (Ne.symm this.1); omega⟩

/-- the CAS `old → closed` of a thread that carries `old` succeeds -/
theorem NInv.casOk {s s' : State} {old : St} (h : NInv s) (hold : s.state = old) (hcar : 0 < carrying old s)
    (hst : s'.state = .closed) (hr : s'.onRemote = s.onRemote) (hn : s'.notified = s.notified) (hl : s'.onLocal = s.onLocal)
    (hc : closers s' = closers s + 1) (hx : ∀ st, carrying st s' ≤ carrying st s) : NInv s' := by
  obtain ⟨bad, nhalf, nopen, once, nclosed, nl⟩ := h
  have hne : s.state ≠ .closed := fun e => by rw [← hold, e] at hcar; omega
  have := nopen hne
  refine ⟨by have := hx .closed; omega, fun e => ⟨by simp [hst], by have := hx .half; have := nhalf (hr ▸ e); omega⟩,
    fun e => absurd hst e, by omega, fun _ _ => by omega, by omega⟩

/-- `clean` at the end of `close()` by a thread that carries `old` -/
theorem NInv.clean {s s' : State} {old : St} (h : NInv s) (hcar : 0 < carrying old s) (hst : s'.state = s.state)
    (hr : s'.onRemote = s.onRemote) (hn : s'.notified = s.notified + notes old) (hl : s'.onLocal = s.onLocal + notes old)
    (hc : closers s' + 1 = closers s) (hx : ∀ st, carrying st s' ≤ carrying st s) : NInv s' := by
  obtain ⟨bad, nhalf, nopen, once, nclosed, nl⟩ := h
  have hcl : s.state = .closed := Classical.byContradiction fun e => by have := nopen e; omega
  have hoc : old ≠ .closed := fun e => by rw [e] at hcar; omega
  refine ⟨by have := hx .closed; omega, fun e => ⟨by simp [hst, hcl], by have := hx .half; have := nhalf (hr ▸ e); omega⟩,
    fun e => absurd (hst.trans hcl) e, ?_, fun _ e => ?_, by omega⟩
  · have : notes old ≤ 1 := by unfold notes; split <;> omega
    omega
  · have hoh : old ≠ .half := fun e' => by rw [e'] at hcar; have := (nhalf (hr ▸ e)).2; omega
    have : notes old = 1 := by cases old <;> simp_all [notes]
    have := nclosed hcl (hr ▸ e); omega

/-- the peer's close finds the stream open -/
theorem NInv.peerClose {s s' : State} (h : NInv s) (ho : s.state = .opened) (hst : s'.state = .half)
    (hr : s'.onRemote = s.onRemote + 1) (hn : s'.notified = s.notified) (hl : s'.onLocal = s.onLocal)
    (hc : closers s' = closers s) (hx : ∀ st, carrying st s' = carrying st s) : NInv s' := by
  obtain ⟨bad, nhalf, nopen, once, nclosed, nl⟩ := h
  have := nopen (by simp [ho])
  exact ⟨by rw [hx]; exact bad, fun e => by omega, fun _ => by omega, by omega, fun e => by simp [hst] at e, by omega⟩

/-- a goroutine moves from `pc` to `pc'`; `s1` is `s` with other fields changed -/
theorem closers_setG {s s1 : State} {i : Nat} {pc : GPc} (hg : s.gs[i]? = some pc) (hgs : s1.gs = s.gs) (hu : s1.u = s.u)
    (pc' : GPc) : closers (setG s1 i pc') + b2n (isClosing pc) = closers s + b2n (isClosing pc') := by
  have := countP_split isClosing _ i pc hg; have := countP_set_split isClosing _ i pc pc' hg
  simp only [closers, setG, hgs, hu, b2n]; omega

theorem carrying_setG {s s1 : State} {i : Nat} {pc : GPc} (hg : s.gs[i]? = some pc) (hgs : s1.gs = s.gs) (hu : s1.u = s.u)
    (pc' : GPc) (st : St) : carrying st (setG s1 i pc') + b2n (carries st pc) = carrying st s + b2n (carries st pc') := by
  have := countP_split (carries st) _ i pc hg; have := countP_set_split (carries st) _ i pc pc' hg
  simp only [carrying, setG, hgs, hu, b2n]; omega

/-- a goroutine step outside `close()`, or one inside it that keeps what the thread carries; `s1` is `s` with fields
    changed that `NInv` does not read (the defaults check that by `rfl`) -/
theorem NInv.setG_quiet {s s1 : State} {i : Nat} {pc pc' : GPc} (h : NInv s) (hg : s.gs[i]? = some pc)
    (hC : ∀ st, carries st pc' = true → carries st pc = true)
    (hst : s1.state = s.state ∨ s.state = .opened ∧ s1.state = .localClosing := by exact .inl rfl)
    (hgs : s1.gs = s.gs := by rfl) (hu : s1.u = s.u := by rfl) (hr : s1.onRemote = s.onRemote := by rfl)
    (hn : s1.notified = s.notified := by rfl) (hl : s1.onLocal = s.onLocal := by rfl)
    (hK : isClosing pc' = isClosing pc := by rfl) : NInv (setG s1 i pc') := by
  refine h.same hst hr hn hl ?_ fun st => ?_
  · have := closers_setG hg hgs hu pc'; rw [hK] at this; omega
  · have := carrying_setG hg hgs hu pc' st
    have : b2n (carries st pc') ≤ b2n (carries st pc) := by
      cases hc : carries st pc' <;> simp [b2n, hC st, hc]
    omega

theorem ninv_stepG {s : State} (h : NInv s) (i : Nat) (od : OnData) : NInv (stepG s i od) := by
  unfold stepG
  split
  · exact h
  · rename_i pc hg
    cases pc with
    | start | in3 | in2 | store0 => exact h.setG_quiet hg nofun
    | loadState =>
      dsimp only
      split
      · split <;> exact h.setG_quiet hg nofun
      · exact h.setG_quiet hg nofun
    | in1 =>
      dsimp only
      by_cases hs : s.state = .opened
      · rw [if_pos hs]; exact h.setG_quiet hg nofun (.inr ⟨hs, rfl⟩)
      · rw [if_neg hs]; exact h.setG_quiet hg nofun
    | loadClose =>
      dsimp only
      split
      · exact h.setG_quiet hg nofun
      · split <;> exact h.setG_quiet hg nofun
    | recheck =>
      dsimp only
      split <;> exact h.setG_quiet hg nofun
    | closeLoad =>
      dsimp only
      split
      · exact h.setG_quiet hg nofun
      · rename_i hne
        have hK := closers_setG hg rfl rfl (.closeCas s.state)
        have hX := carrying_setG hg rfl rfl (.closeCas s.state)
        simp [isClosing, carries, b2n] at hK hX
        refine h.load hne rfl rfl rfl rfl (by omega) fun st e => ?_
        have := hX st; rw [if_neg (by simpa using Ne.symm e)] at this; omega
    | closeCas old =>
      dsimp only
      split
      · rename_i hs
        have hK := fun pc' => closers_setG (s1 := { s with state := .closed }) hg rfl rfl pc'
        have hX := fun pc' => carrying_setG (s1 := { s with state := .closed }) hg rfl rfl pc'
        have hcar : 0 < carrying old s := by
          have := carrying_setG hg rfl rfl .done old; simp [carries, b2n] at this; omega
        split
        · rw [show setG (setG { s with state := .closed } i (.waitG old)) i (.cleaning old) = setG { s with state := .closed } i (.cleaning old) by
            simp only [setG, set_set]]
          have hK := hK (.cleaning old); have hX := hX (.cleaning old)
          simp [isClosing, carries, b2n] at hK hX
          exact h.casOk hs hcar rfl rfl rfl rfl (by omega) fun st => by have := hX st; omega
        · have hK := hK (.waitG old); have hX := hX (.waitG old)
          simp [isClosing, carries, b2n] at hK hX
          exact h.casOk hs hcar rfl rfl rfl rfl (by omega) fun st => by have := hX st; omega
      · exact h.setG_quiet hg nofun
    | waitG old =>
      dsimp only
      split
      · exact h.setG_quiet hg fun _ e => e
      · exact h
    | cleaning old =>
      show NInv (setG (closeEffects s old) i .done)
      have hK := closers_setG (s1 := closeEffects s old) hg (by rw [closeEffects_eq]) (by rw [closeEffects_eq]) .done
      have hX := carrying_setG (s1 := closeEffects s old) hg (by rw [closeEffects_eq]) (by rw [closeEffects_eq]) .done
      simp [isClosing, carries, b2n] at hK hX
      have hcar : 0 < carrying old s := by have := hX old; simp at this; omega
      refine h.clean hcar ?_ ?_ ?_ ?_ (by omega) fun st => by have := hX st; omega
      all_goals simp only [setG, closeEffects_eq]
    | done => exact h

/-- a step of the user (at `pc`) or of the event loop that leaves the goroutines as they are -/
theorem NInv.setU_quiet {s s1 : State} {pc : UPc} (h : NInv s) (hu : s.u = pc)
    (hC : ∀ st, uCarries st s1.u = true → uCarries st pc = true)
    (hst : s1.state = s.state ∨ s.state = .opened ∧ s1.state = .localClosing := by exact .inl rfl)
    (hgs : s1.gs = s.gs := by rfl) (hr : s1.onRemote = s.onRemote := by rfl)
    (hn : s1.notified = s.notified := by rfl) (hl : s1.onLocal = s.onLocal := by rfl)
    (hK : uClosing s1.u = uClosing pc := by rfl) : NInv s1 := by
  subst hu
  refine h.same hst hr hn hl (by simp only [closers, hgs, hK]) fun st => ?_
  have : b2n (uCarries st s1.u) ≤ b2n (uCarries st s.u) := by
    cases hc : uCarries st s1.u <;> simp [b2n, hC st, hc]
  simp only [carrying, hgs]; omega

theorem ninv_stepE {s : State} (h : NInv s) (cmd : ECmd) : NInv (stepE s cmd) := by
  unfold stepE
  cases he : s.e with
  | idle => cases cmd <;> exact h.setU_quiet rfl fun _ e => e
  | dataLoad => dsimp only; split <;> exact h.setU_quiet rfl fun _ e => e
  | dataCas =>
    dsimp only
    split
    · exact h.setU_quiet rfl fun _ e => e
    · exact h.same (.inl rfl) rfl rfl rfl (by simp [closers, isClosing]) fun st => by simp [carrying, carries]
  | pcloseCas =>
    dsimp only
    split
    · rename_i ho
      exact h.peerClose ho rfl rfl rfl rfl rfl fun _ => rfl
    · exact h.setU_quiet rfl fun _ e => e

theorem ninv_stepU {s : State} (h : NInv s) : NInv (stepU s) := by
  unfold stepU
  cases hu : s.u with
  | start | store => exact h.setU_quiet hu nofun
  | loadIn => dsimp only; split <;> exact h.setU_quiet hu nofun
  | casHalf =>
    dsimp only
    split
    · rename_i hs; exact h.setU_quiet hu nofun (.inr ⟨hs, rfl⟩)
    · exact h.setU_quiet hu nofun
  | closeLoad =>
    dsimp only
    split
    · exact h.setU_quiet hu nofun
    · rename_i hne
      refine h.load hne rfl rfl rfl rfl (by simp [closers, hu, uClosing]) fun st e => ?_
      simp [carrying, hu, uCarries, b2n, Ne.symm e]
  | closeCas old =>
    dsimp only
    split
    · rename_i hs
      have hcar : 0 < carrying old s := by simp [carrying, hu, uCarries, b2n]
      split <;> exact h.casOk hs hcar rfl rfl rfl rfl (by simp [closers, hu, uClosing, b2n]) fun st => by simp [carrying, hu, uCarries]
    · exact h.setU_quiet hu nofun
  | waitG old =>
    dsimp only
    split
    · exact h.setU_quiet hu fun _ e => e
    · exact h
  | cleaning old =>
    dsimp only
    have hcar : 0 < carrying old s := by simp [carrying, hu, uCarries, b2n]
    refine h.clean hcar ?_ ?_ ?_ ?_ ?_ fun st => ?_
    all_goals simp [closeEffects_eq, closers, carrying, hu, uClosing, uCarries, b2n]
  | done => exact h

theorem ninv_step {s : State} (h : NInv s) (st : Step) : NInv (step s st) := by
  cases st with
  | e cmd => exact ninv_stepE h cmd
  | g i od => exact ninv_stepG h i od
  | u => exact ninv_stepU h

theorem ninv_run {s : State} (h : NInv s) (sched : List Step) : NInv (run s sched) :=
  foldlRecOn sched step h fun _ hb st _ => ninv_step hb st

end Callback

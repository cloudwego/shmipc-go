import ShmVerif.Proof.SlotSys
/-!
  The stream pair as two byte queues: every operation of either end, in any order, any number of messages in flight in
  both directions, both transports - the bytes a reader call returns are the next bytes the peer flushed.  At the end,
  one message through either transport from the writer's invariant alone, without the invariant of the pair.
-/
namespace LB
open List

def flightBytes (m : Mem) (ws : List Wrap) : List Nat := content m (flightSlices m ws)

/-- one direction, as the specification sees it -/
structure QDir where
  flushed : List Nat := []     -- flushed by the sender and not yet consumed by the reader
  composed : List Nat := []    -- written by the sender and not yet flushed
  deriving DecidableEq, Repr

/-- direction X → Y -/
structure DirOK (m : Mem) (X Y : StreamM) (q : QDir) : Prop where
  fl : content m Y.recv.sl ++ flightBytes m Y.pending = q.flushed
  co : content m X.send.sl = q.composed
  rwf : SlicesWF m Y.recv.sl
  pwf : SlicesWF m (flightSlices m Y.pending)
  rlen : Y.recv.len = (content m Y.recv.sl).length
  slen : X.send.len = (content m X.send.sl).length

/-- the invariant of the pair: the slot accounting, and the bytes of both directions -/
structure PQ (N : Nat) (m : Mem) (X Y : StreamM) (qxy qyx : QDir) : Prop where
  pi : PI N m X Y
  xy : DirOK m X Y qxy
  yx : DirOK m Y X qyx

theorem PQ.symm {N : Nat} {m : Mem} {X Y : StreamM} {qxy qyx : QDir} (h : PQ N m X Y qxy qyx) : PQ N m Y X qyx qxy :=
  ⟨h.pi.symm, h.yx, h.xy⟩

theorem content_foreign {m m' : Mem} {l : LBuf} (u : ∀ p ∈ heldL l, Untouched m m' p) :
    content m' l.sl = content m l.sl ∧ (SlicesWF m l.sl → SlicesWF m' l.sl) :=
  have hd : ∀ p ∈ heldS l.sl, (m'.slot p).data = (m.slot p).data := fun p hp => (u p (mem_append_left _ hp)).2.2
  ⟨content_untouched hd, slicesWF_untouched hd⟩

theorem flight_foreign {m m' : Mem} {ws : List Wrap} (g : Geo m m') (hp : PendsOK m ws)
    (u : ∀ p ∈ flight m ws, Untouched m m' p) :
    flightSlices m' ws = flightSlices m ws ∧ flightBytes m' ws = flightBytes m ws ∧
    (SlicesWF m (flightSlices m ws) → SlicesWF m' (flightSlices m ws)) := by
  have e := (PendsOK.frame g hp (fun p hp' => (u p hp').2.1)).2.2
  have hd : ∀ p ∈ heldS (flightSlices m ws), (m'.slot p).data = (m.slot p).data := fun p hp' =>
    (u p (by rw [← heldS_flightSlices m _ hp]; exact hp')).2.2
  exact ⟨e, by unfold flightBytes; rw [e, content_untouched hd], slicesWF_untouched hd⟩

/-- the sender's half of a direction depends on the send buffer only -/
theorem DirOK.send_foreign {m m' : Mem} {X Y : StreamM} {q : QDir} (us : ∀ p ∈ heldL X.send, Untouched m m' p)
    (h : DirOK m X Y q) : content m' X.send.sl = q.composed ∧ X.send.len = (content m' X.send.sl).length := by
  rw [(content_foreign us).1]; exact ⟨h.co, h.slen⟩

/-- the receiver's half depends on the receive buffer and the messages in flight only -/
theorem DirOK.recv_foreign {m m' : Mem} {X Y : StreamM} {q : QDir} (g : Geo m m') (hp : PendsOK m Y.pending)
    (ur : ∀ p ∈ heldL Y.recv, Untouched m m' p) (uf : ∀ p ∈ flight m Y.pending, Untouched m m' p) (h : DirOK m X Y q) :
    content m' Y.recv.sl ++ flightBytes m' Y.pending = q.flushed ∧ SlicesWF m' Y.recv.sl ∧
    SlicesWF m' (flightSlices m' Y.pending) ∧ Y.recv.len = (content m' Y.recv.sl).length := by
  obtain ⟨c, w⟩ := content_foreign ur
  obtain ⟨e, b, wf⟩ := flight_foreign g hp uf
  rw [c, b, e]; exact ⟨h.fl, w h.rwf, wf h.pwf, h.rlen⟩

theorem DirOK.foreign {m m' : Mem} {X Y : StreamM} {q : QDir} (g : Geo m m') (hp : PendsOK m Y.pending)
    (us : ∀ p ∈ heldL X.send, Untouched m m' p) (ur : ∀ p ∈ heldL Y.recv, Untouched m m' p)
    (uf : ∀ p ∈ flight m Y.pending, Untouched m m' p) (h : DirOK m X Y q) : DirOK m' X Y q :=
  have s := h.send_foreign us
  have r := h.recv_foreign g hp ur uf
  ⟨r.1, s.1, r.2.1, r.2.2.1, r.2.2.2, s.2⟩

theorem DirOK.congr {m : Mem} {X X' Y Y' : StreamM} {q : QDir} (h : DirOK m X Y q) (hs : X'.send = X.send)
    (hr : Y'.recv = Y.recv) (hp : Y'.pending = Y.pending) : DirOK m X' Y' q := by
  obtain ⟨a1, a2, a3, a4, a5, a6⟩ := h
  rw [← hs] at a2 a6; rw [← hr] at a1 a3 a5; rw [← hp] at a1 a4
  exact ⟨a1, a2, a3, a4, a5, a6⟩

variable {N : Nat}

/-- a reader call on `X` that consumes `k` bytes (`k = 0`: Peek, ReleasePreviousRead) -/
theorem PQ.recvStep {m m' : Mem} {X Y : StreamM} {qxy qyx : QDir} {r' : LBuf} (h : PQ N m X Y qxy qyx)
    (a : AcctR m X.recv m' r') (k : Nat) (hc : content m' r'.sl = (content m X.recv.sl).drop k)
    (hk : k ≤ (content m X.recv.sl).length) (hw : SlicesWF m' r'.sl) (hl : r'.len = X.recv.len - k) :
    PQ N m' { X with recv := r' } Y qxy { qyx with flushed := qyx.flushed.drop k } := by
  obtain ⟨hpi, ux, uy⟩ := h.pi.recvStep a
  have uY := fun i p hp => uy p (held_sub (st := Y) i hp)
  refine ⟨hpi, (h.xy.foreign a.geo h.pi.y.pend (ux .send (by decide)) (uY .recv) (uY .pend)).congr rfl rfl rfl, ?_⟩
  -- Y → X : the receive buffer lost its first k bytes
  obtain ⟨s1, s2⟩ := h.yx.send_foreign (uY .send)
  obtain ⟨e, b, wf⟩ := flight_foreign a.geo h.pi.x.pend (ux .pend (by decide))
  refine ⟨?_, s1, hw, by rw [e]; exact wf h.yx.pwf, ?_, s2⟩
  · show content m' r'.sl ++ flightBytes m' X.pending = qyx.flushed.drop k
    rw [hc, b, ← h.yx.fl, drop_append_of_le_length hk]
  · show r'.len = (content m' r'.sl).length
    rw [hl, hc, length_drop, h.yx.rlen]

/-- a writer call on `X` that appends `d` -/
theorem PQ.sendStep {m m' : Mem} {X Y : StreamM} {qxy qyx : QDir} {l' : LBuf} (h : PQ N m X Y qxy qyx)
    (a : Acct m X.send m' l') (wf' : m'.WF) (wb : WBuf m' l') (fr : Frame m X.send m' l') (d : List Nat)
    (hc : content m' l'.sl = content m X.send.sl ++ d) (hl : l'.len = X.send.len + d.length) :
    PQ N m' { X with send := l' } Y { qxy with composed := qxy.composed ++ d } qyx := by
  obtain ⟨hpi, ux, uy⟩ := h.pi.sendStepU a wf' wb fr
  have uY := fun i p hp => uy p (held_sub (st := Y) i hp)
  refine ⟨hpi, ?_, (h.yx.foreign a.geo h.pi.x.pend (uY .send) (ux .recv (by decide)) (ux .pend (by decide))).congr rfl rfl rfl⟩
  obtain ⟨r1, r2, r3, r4⟩ := h.xy.recv_foreign a.geo h.pi.y.pend (uY .recv) (uY .pend)
  refine ⟨r1, ?_, r2, r3, r4, ?_⟩
  · show content m' l'.sl = qxy.composed ++ d
    rw [hc, h.xy.co]
  · show l'.len = (content m' l'.sl).length
    rw [hl, hc, length_append, h.xy.slen]

theorem content_length_sizes (m : Mem) : ∀ (sl : List BS), SlicesWF m sl → (content m sl).length = sizes sl
  | [], _ => rfl
  | s :: r, h => by
    rw [content_cons, length_append, BS.unread_length m s (h s mem_cons_self),
      content_length_sizes m r (fun t ht => h t (mem_cons_of_mem _ ht))]
    simp [sizes]

/-- readMore on `X`: what was in flight towards it is now in its receive buffer, in the same order -/
theorem PQ.moreStep {m : Mem} {X Y : StreamM} {qxy qyx : QDir} (h : PQ N m X Y qxy qyx) :
    ∃ X', moveTo m X = some (m, X') ∧ PQ N m X' Y qxy qyx := by
  obtain ⟨X1, e1, h1, h2, h3, h4, h5⟩ := moveTo_spec h.pi.x.pend
  refine ⟨X1, e1, h.pi.joined h1 h2 h3 h4, h.xy.congr h1 rfl rfl, ?_⟩
  have hwf : SlicesWF m X1.recv.sl := by
    rw [h4]
    exact fun t ht => (mem_append.mp ht).elim (h.yx.rwf t) (h.yx.pwf t)
  refine ⟨?_, h.yx.co, hwf, by rw [h2]; exact (fun _ hh => nomatch hh), ?_, h.yx.slen⟩
  · rw [h2, h4, content_append, ← h.yx.fl]
    simp [flightBytes, flightSlices, content]
  · rw [h4, h5, content_append, length_append, h.yx.rlen, content_length_sizes m _ h.yx.pwf]

/-- after `done`, re-reading the headers gives slices with exactly the unread bytes of the send buffer's slices -/
theorem done_content (m m1 : Mem) (l : LBuf) (wi : Nat) (hw : m.WF) (hi : WInv m l wi) (ht : wi + 1 = l.sl.length)
    (hne : ∀ t, l.sl[wi]? = some t → t.ri < t.wi) (hf : l.fromShm = true) (D : DoneFold m l (wi + 1) m1) :
    ∀ (n j : Nat), j + n = wi + 1 →
      content m1 ((heldS (l.sl.drop j)).map (reSlice m1)) = content m (l.sl.drop j) ∧
      SlicesWF m1 ((heldS (l.sl.drop j)).map (reSlice m1)) := by
  intro n j hjn
  cases n with
  | zero =>
    rw [show l.sl.drop j = [] from drop_eq_nil_of_le (by omega)]
    exact ⟨rfl, fun _ h => nomatch h⟩
  | succ n =>
    obtain ⟨sj, hsj⟩ : ∃ s, l.sl[j]? = some s := ⟨l.sl[j]'(by omega), by simp⟩
    obtain ⟨ij, hij⟩ := Option.isSome_iff_exists.mp (hi.shm hf sj (mem_of_getElem? hsj))
    exact (done_chain m m1 l wi hi ht hne hf D (n + 1) j sj ij hjn (by omega) hsj hij).2

theorem content_fbSlice (mm : Mem) (d : List Nat) : content mm [fbSlice d] = d := by
  simp [content, BS.unread, BS.bytes, BS.size, fbSlice]

theorem fbSlice_wf (mm : Mem) (d : List Nat) : (fbSlice d).WF mm := by
  simp [BS.WF, BS.bytes, fbSlice]

theorem flightBytes_append (m : Mem) (a b : List Wrap) : flightBytes m (a ++ b) = flightBytes m a ++ flightBytes m b := by
  simp only [flightBytes, flightSlices_append, content_append]

/-- ... and reading that message back gives exactly the unread bytes of the send buffer -/
theorem done_flightBytes {m m1 : Mem} {l : LBuf} {wi off : Nat} {f : BS} (hw : m.WF) (hi : WInv m l wi) (ht : wi + 1 = l.sl.length)
    (hne : ∀ t, l.sl[wi]? = some t → t.ri < t.wi) (hf : l.fromShm = true) (D : DoneFold m l (wi + 1) m1)
    (h0 : l.sl[0]? = some f) (hs : f.slot = some off) :
    flightBytes m1 [.shm off] = content m l.sl ∧ SlicesWF m1 (flightSlices m1 [.shm off]) := by
  obtain ⟨_, _, hch⟩ := done_flight hi ht hne hf D h0 hs
  obtain ⟨dc, dw⟩ := done_content m m1 l wi hw hi ht hne hf D (wi + 1) 0 (by omega)
  rw [drop_zero] at dc dw
  have e : flightSlices m1 [.shm off] = (heldS l.sl).map (reSlice m1) := by simp [flightSlices, wrapSlices, hch]
  unfold flightBytes
  rw [e]; exact ⟨dc, dw⟩

/-- the byte side of `PI.rebuild`: what `X` had composed leaves its send buffer as the messages `ws` -/
theorem PQ.rebuild {m m' : Mem} {X Y : StreamM} {qxy qyx : QDir} {l' : LBuf} {ws : List Wrap} {fbx : Bool} (h : PQ N m X Y qxy qyx)
    (g : Geo m m') (unt : ∀ p, p ∉ heldL X.send → 0 < (heldSt m X).count p + (heldSt m Y).count p → Untouched m m' p)
    (hpi : PI N m' { X with send := l', inFallback := fbx } { Y with pending := Y.pending ++ ws })
    (hl : l'.sl = [] ∧ l'.len = 0) (hc : flightBytes m' ws = qxy.composed) (hw : SlicesWF m' (flightSlices m' ws)) :
    PQ N m' { X with send := l', inFallback := fbx } { Y with pending := Y.pending ++ ws }
      { flushed := qxy.flushed ++ qxy.composed, composed := [] } qyx := by
  obtain ⟨ux, uy⟩ := h.pi.frame .send unt
  have uY := fun i p hp => uy p (held_sub (st := Y) i hp)
  refine ⟨hpi, ?_, (h.yx.foreign g h.pi.x.pend (uY .send) (ux .recv (by decide)) (ux .pend (by decide))).congr rfl rfl rfl⟩
  obtain ⟨r1, r2, r3, r4⟩ := h.xy.recv_foreign g h.pi.y.pend (uY .recv) (uY .pend)
  refine ⟨?_, by show content m' l'.sl = []; rw [hl.1]; rfl, r2, ?_, r4, by show l'.len = (content m' l'.sl).length; rw [hl.1, hl.2]; rfl⟩
  · show content m' Y.recv.sl ++ flightBytes m' (Y.pending ++ ws) = qxy.flushed ++ qxy.composed
    rw [flightBytes_append, ← append_assoc, r1, hc]
  · show SlicesWF m' (flightSlices m' (Y.pending ++ ws))
    rw [flightSlices_append]
    exact fun t ht => (mem_append.mp ht).elim (r3 t) (hw t)

/-- Stream.Flush on `X`: what was composed becomes flushed (readable by `Y`), on either transport -/
theorem PQ.flushStep {m : Mem} {X Y : StreamM} {qxy qyx : QDir} (h : PQ N m X Y qxy qyx)
    (hr : (flush m X Y).2.2.2 ≠ .panic) :
    PQ N (flush m X Y).1 (flush m X Y).2.1 (flush m X Y).2.2.1
      { flushed := qxy.flushed ++ qxy.composed, composed := [] } qyx := by
  have hpi := h.pi.flushStep hr
  rcases flush_cases h.pi.x.wbuf hr with ⟨hl, e⟩ | ⟨m1, hd, e | ⟨wi, f, off, hi, ht, hne, hfs, D, h0, hs, e⟩⟩ <;> rw [e] at hpi ⊢
  · -- nothing composed
    have hc0 : qxy.composed = [] := by
      rw [← h.xy.co]; exact length_eq_zero_iff.mp (by rw [← h.xy.slen, hl])
    exact ⟨hpi, ⟨by rw [hc0, append_nil]; exact h.xy.fl, by rw [h.xy.co, hc0], h.xy.rwf, h.xy.pwf, h.xy.rlen, h.xy.slen⟩, h.yx⟩
  · -- fall-back transport: the event carries the bytes of the send buffer
    obtain ⟨a0, hdata, f0, _⟩ := h.pi.done hd
    obtain ⟨aR, -⟩ := lrecycle_acct a0.shape a0.ok
    refine h.rebuild (a0.geo.trans aR.geo) (h.pi.lift (fun p hf hs => (f0 p hf hs).trans (aR.frame p (f0 p hf hs).1 hs))) hpi
      ⟨rfl, rfl⟩ ?_ (fun t ht => by rw [mem_singleton.mp ht]; exact fbSlice_wf _ _)
    show content _ [fbSlice (X.send.underlying m1)] = _
    rw [content_fbSlice, underlying_eq_content m1 X.send h.pi.x.wbuf.tight, content_untouched (fun p _ => hdata p), h.xy.co]
  · -- shared-memory transport: the peer will read the bytes back through the headers
    obtain ⟨a0, _, f0, _⟩ := h.pi.done hd
    obtain ⟨dc, dw⟩ := done_flightBytes h.pi.wf hi ht hne hfs D h0 hs
    exact h.rebuild a0.geo (h.pi.lift f0) hpi ⟨rfl, rfl⟩ (by rw [dc]; exact h.xy.co) dw

theorem close_untouched {m : Mem} {X Y : StreamM} (h : PI N m X Y) :
    Geo m (closeStream m X) ∧ ∀ p ∈ heldSt m Y, Untouched m (closeStream m X) p :=
  (h.closeStep false).2

/-- Stream.clean (Close) of `X`: its own three buffers are emptied - what was flushed towards it and what it had composed is
    gone - and the other direction keeps what was flushed -/
theorem PQ.closeStep {m : Mem} {X Y : StreamM} {qxy qyx : QDir} (fb : Bool) (h : PQ N m X Y qxy qyx) :
    PQ N (closeStream m X) { inFallback := fb } Y { qxy with composed := [] } { qyx with flushed := [] } := by
  obtain ⟨hpi, g, uy⟩ := h.pi.closeStep fb
  have uY := fun i p hp => uy p (held_sub (st := Y) i hp)
  obtain ⟨r1, r2, r3, r4⟩ := h.xy.recv_foreign g h.pi.y.pend (uY .recv) (uY .pend)
  obtain ⟨s1, s2⟩ := h.yx.send_foreign (uY .send)
  exact ⟨hpi, ⟨r1, rfl, r2, r3, r4, rfl⟩, ⟨rfl, s1, (fun _ hh => nomatch hh), (fun _ hh => nomatch hh), rfl, s2⟩⟩

/-- the specification: two byte queues -/
structure QSys where
  ab : QDir := {}      -- a → b
  ba : QDir := {}      -- b → a
  deriving DecidableEq, Repr

/-- the queue whose sender is end `x` -/
def QSys.dir (q : QSys) (x : Bool) : QDir := if x then q.ba else q.ab
def QSys.set (q : QSys) (x : Bool) (z : QDir) : QSys := if x then { q with ba := z } else { q with ab := z }

theorem QSys.set_other_self (q : QSys) (x : Bool) (z : QDir) : (q.set x z).set (!x) (q.dir (!x)) = q.set x z := by
  cases x <;> rfl

theorem QSys.set_self_other (q : QSys) (x : Bool) (z : QDir) : (q.set x (q.dir x)).set (!x) z = q.set (!x) z := by
  cases x <;> rfl

theorem QSys.set_both_self (q : QSys) (x : Bool) : (q.set x (q.dir x)).set (!x) (q.dir (!x)) = q := by
  cases x <;> rfl

/-- what each operation means for the two queues, and what it returns -/
def qstep (q : QSys) : POp → QSys × List Nat
  | .write x d => (q.set x { (q.dir x) with composed := (q.dir x).composed ++ d }, [])
  | .writeByte x b => (q.set x { (q.dir x) with composed := (q.dir x).composed ++ [b] }, [])
  | .flush x => (q.set x { flushed := (q.dir x).flushed ++ (q.dir x).composed, composed := [] }, [])
  | .more _ => (q, [])
  | .readBytes x n => (q.set (!x) { (q.dir (!x)) with flushed := (q.dir (!x)).flushed.drop n }, (q.dir (!x)).flushed.take n)
  | .peek x n => (q, (q.dir (!x)).flushed.take n)
  | .discard x n => (q.set (!x) { (q.dir (!x)) with flushed := (q.dir (!x)).flushed.drop n }, [])
  | .readString x n => (q.set (!x) { (q.dir (!x)) with flushed := (q.dir (!x)).flushed.drop n }, (q.dir (!x)).flushed.take n)
  | .readInto x n => (q.set (!x) { (q.dir (!x)) with flushed := (q.dir (!x)).flushed.drop n }, (q.dir (!x)).flushed.take n)
  | .readByte x => (q.set (!x) { (q.dir (!x)) with flushed := (q.dir (!x)).flushed.drop 1 }, (q.dir (!x)).flushed.take 1)
  | .release _ => (q, [])
  | .close x => ((q.set x { (q.dir x) with composed := [] }).set (!x) { (q.dir (!x)) with flushed := [] }, [])

/-- the operations this refinement covers: all of them (Read is covered for the case that all requested bytes are
    buffered - in general it returns a non-empty prefix) -/
def Covered : POp → Prop
  | _ => True

/-- what Stream.readMore guarantees before a reader call runs: the requested bytes are buffered (`recv.len` is the length of
    the content, `DirOK.rlen`) -/
def Guard (s : PSys) : POp → Prop
  | .readBytes x n | .peek x n | .discard x n | .readString x n | .readInto x n => 0 < n ∧ n ≤ (s.get x).recv.len
  | .readByte x => 1 ≤ (s.get x).recv.len
  | _ => True

def PQS (N : Nat) (s : PSys) (q : QSys) : Prop := PQ N s.m s.a s.b q.ab q.ba

/-- `PInv.side` with the queues: the pair seen from end `x`, and how invariant and queues are put back after a step -/
theorem PQS.side {s : PSys} {q : QSys} (h : PQS N s q) (x : Bool) :
    PQ N s.m (s.get x) (s.get (!x)) (q.dir x) (q.dir (!x)) ∧
    (∀ m' st zx zy, PQ N m' st (s.get (!x)) zx zy → PQS N (s.put x m' st) ((q.set x zx).set (!x) zy)) ∧
    ∀ m' st pr zx zy, PQ N m' st pr zx zy → PQS N ((s.put x m' st).put (!x) m' pr) ((q.set x zx).set (!x) zy) := by
  cases x with
  | false => exact ⟨h, fun _ _ _ _ h' => h', fun _ _ _ _ _ h' => h'⟩
  | true => exact ⟨PQ.symm h, fun _ _ _ _ h' => PQ.symm h', fun _ _ _ _ _ h' => PQ.symm h'⟩

theorem PQS.recv {s : PSys} {q : QSys} (h : PQS N s q) (x : Bool) {m' : Mem} {r' : LBuf} (a : AcctR s.m (s.get x).recv m' r')
    (k : Nat) (hc : content m' r'.sl = (content s.m (s.get x).recv.sl).drop k) (hk : k ≤ (content s.m (s.get x).recv.sl).length)
    (hw : SlicesWF m' r'.sl) (hl : r'.len = (s.get x).recv.len - k) :
    PQS N (s.put x m' { (s.get x) with recv := r' }) (q.set (!x) { (q.dir (!x)) with flushed := (q.dir (!x)).flushed.drop k }) := by
  obtain ⟨hx, put1, _⟩ := h.side x
  have := put1 _ _ _ _ (hx.recvStep a k hc hk hw hl)
  rwa [QSys.set_self_other] at this

theorem PQS.look {s : PSys} {q : QSys} (h : PQS N s q) (x : Bool) {m' : Mem} {r' : LBuf} (a : AcctR s.m (s.get x).recv m' r')
    (hc : content m' r'.sl = content s.m (s.get x).recv.sl) (hw : SlicesWF m' r'.sl) (hl : r'.len = (s.get x).recv.len) :
    PQS N (s.put x m' { (s.get x) with recv := r' }) q := by
  have := h.recv x a 0 hc (Nat.zero_le _) hw hl
  cases x <;> exact this

theorem PQS.send {s : PSys} {q : QSys} (h : PQS N s q) (x : Bool) {m' : Mem} {l' : LBuf} {d : List Nat}
    (sp : m'.WF ∧ WBuf m' l' ∧ content m' l'.sl = content s.m (s.get x).send.sl ++ d ∧ l'.len = (s.get x).send.len + d.length ∧
      Frame s.m (s.get x).send m' l')
    (a : Acct s.m (s.get x).send m' l') :
    PQS N (s.put x m' { (s.get x) with send := l' }) (q.set x { (q.dir x) with composed := (q.dir x).composed ++ d }) := by
  obtain ⟨hx, put1, _⟩ := h.side x
  have := put1 _ _ _ _ (hx.sendStep a sp.1 sp.2.1 sp.2.2.2.2 d sp.2.2.1 sp.2.2.2.1)
  rwa [QSys.set_other_self] at this

theorem PQS.take {s : PSys} {q : QSys} (h : PQS N s q) (x : Bool) {n : Nat} (hn : n ≤ (s.get x).recv.len) :
    Shape s.m ∧ BufOK s.m (s.get x).recv ∧ SlicesWF s.m (s.get x).recv.sl ∧ n ≤ (content s.m (s.get x).recv.sl).length ∧
    (content s.m (s.get x).recv.sl).take n = (q.dir (!x)).flushed.take n := by
  obtain ⟨hx, _, _⟩ := h.side x
  have hle : n ≤ (content s.m (s.get x).recv.sl).length := by rw [← hx.yx.rlen]; exact hn
  exact ⟨hx.pi.shape, hx.pi.x.recv, hx.yx.rwf, hle, by rw [← hx.yx.fl, take_append_of_le_length hle]⟩

/-- **A pair of streams refines two byte queues.** Every covered operation of either end keeps the invariant and returns
    exactly what the queues say. -/
theorem pq_step {s s' : PSys} {q : QSys} {op : POp} (h : PQS N s q) (hc : Covered op) (hg : Guard s op)
    (e : pstep s op = some s') : PQS N s' (qstep q op).1 ∧ pout s op = (qstep q op).2 := by
  cases op with
  | write x d =>
    obtain ⟨hx, _, _⟩ := h.side x
    obtain ⟨m1, l1, e1, sp⟩ := writeBytes_spec s.m (s.get x).send d hx.pi.wf hx.pi.x.wbuf
    simp only [pstep, e1, Option.some.injEq] at e
    subst e; exact ⟨h.send x sp (writeBytes_acct hx.pi.shape hx.pi.x.send e1), rfl⟩
  | writeByte x b =>
    obtain ⟨hx, _, _⟩ := h.side x
    obtain ⟨m1, l1, e1, sp⟩ := writeByte_spec s.m (s.get x).send b hx.pi.wf hx.pi.x.wbuf
    simp only [pstep, e1, Option.some.injEq] at e
    subst e; exact ⟨h.send x sp (writeByte_acct hx.pi.shape hx.pi.x.send e1), rfl⟩
  | flush x =>
    obtain ⟨hx, _, put2⟩ := h.side x
    simp only [pstep] at e
    split at e <;> cases e
    have := put2 _ _ _ _ _ (hx.flushStep ‹_›)
    rw [QSys.set_other_self] at this
    exact ⟨this, rfl⟩
  | more x =>
    obtain ⟨hx, put1, _⟩ := h.side x
    obtain ⟨X', e1, h1⟩ := hx.moreStep
    simp only [pstep, e1, Option.some.injEq] at e
    subst e
    have := put1 _ _ _ _ h1
    rw [QSys.set_both_self] at this
    exact ⟨this, rfl⟩
  | readBytes x n =>
    obtain ⟨hs, ho, hwf, hle, ht⟩ := h.take x hg.2
    obtain ⟨m1, l1, d, e1, e2, e3, e4, e5, _⟩ := readBytes_spec s.m (s.get x).recv n hwf hg.1 hle
    simp only [pstep, e1, Option.some.injEq] at e
    subst e
    exact ⟨h.recv x (readBytes_acct hs ho e1) n e3 hle e4 e5,
      by simp only [pout, e1, qstep, e2, ht]⟩
  | peek x n =>
    obtain ⟨hs, ho, hwf, hle, ht⟩ := h.take x hg.2
    obtain ⟨l1, d, e1, e2, e3, e4⟩ := peek_spec s.m (s.get x).recv n hwf hg.1 hle
    simp only [pstep, e1, Option.some.injEq] at e
    subst e
    exact ⟨h.look x (peek_acct hs ho e1) (by rw [e3]) (by rw [e3]; exact hwf) e4,
      by simp only [pout, e1, qstep, e2, ht]⟩
  | discard x n =>
    obtain ⟨hs, ho, hwf, hle, _⟩ := h.take x hg.2
    obtain ⟨m1, l1, e1, e3, e4, e5, _⟩ := discard_spec s.m (s.get x).recv n hwf hg.1 hle
    simp only [pstep, e1, Option.some.injEq] at e
    subst e
    exact ⟨h.recv x (discard_acct hs ho e1) n e3 hle e4 e5, rfl⟩
  | readByte x =>
    obtain ⟨hs, ho, hwf, hle, ht⟩ := h.take x (n := 1) hg
    obtain ⟨m1, l1, b, e1, e2, e3, e4, e5, _⟩ := readByte_spec s.m (s.get x).recv hwf hle
    simp only [pstep, e1, Option.some.injEq] at e
    subst e
    exact ⟨h.recv x (readByte_acct hs ho e1) 1 e3 hle e4 e5,
      by simp only [pout, e1, qstep, e2, ht]⟩
  | readString x n =>
    obtain ⟨hs, ho, hwf, hle, ht⟩ := h.take x hg.2
    obtain ⟨m1, l1, d, e1, e2, e3, e4, e5, _⟩ := readString_spec s.m (s.get x).recv n hwf hg.1 hle
    simp only [pstep, e1, Option.some.injEq] at e
    subst e
    exact ⟨h.recv x (readString_acct hs ho e1) n e3 hle e4 e5,
      by simp only [pout, e1, qstep, e2, ht]⟩
  | readInto x n =>
    obtain ⟨hs, ho, hwf, hle, ht⟩ := h.take x hg.2
    obtain ⟨m1, l1, d, e1, e2, e3, e4, e5, _⟩ := readInto_spec s.m (s.get x).recv n hwf hg.1 hle
    simp only [pstep, e1, Option.some.injEq] at e
    subst e
    exact ⟨h.recv x (readInto_acct hs ho e1) n e3 hle e4 e5,
      by simp only [pout, e1, qstep, e2, ht]⟩
  | release x =>
    obtain ⟨hx, _, _⟩ := h.side x
    cases e
    obtain ⟨c1, c2, c3⟩ := release_content s.m (s.get x).recv hx.yx.rwf
    exact ⟨h.look x (release_acct hx.pi.shape hx.pi.x.recv) c1 c2 c3, rfl⟩
  | close x =>
    cases e
    exact ⟨(h.side x).2.1 _ _ _ _ ((h.side x).1.closeStep _), rfl⟩

def prunOut : PSys → List POp → Option (PSys × List (List Nat))
  | s, [] => some (s, [])
  | s, op :: r =>
    match pstep s op with
    | none => none
    | some s' => match prunOut s' r with
      | none => none
      | some (s'', outs) => some (s'', pout s op :: outs)

def qrunOut : QSys → List POp → QSys × List (List Nat)
  | q, [] => (q, [])
  | q, op :: r => ((qrunOut (qstep q op).1 r).1, (qstep q op).2 :: (qrunOut (qstep q op).1 r).2)

/-- every operation is covered and every reader call finds its bytes buffered (what readMore waits for) -/
def Admissible : PSys → List POp → Prop
  | _, [] => True
  | s, op :: r => Covered op ∧ Guard s op ∧ ∀ s', pstep s op = some s' → Admissible s' r

theorem pq_run : ∀ (ops : List POp) (s s' : PSys) (q : QSys) (outs : List (List Nat)), PQS N s q → Admissible s ops →
    prunOut s ops = some (s', outs) → PQS N s' (qrunOut q ops).1 ∧ outs = (qrunOut q ops).2
  | [], s, s', q, outs, h, _, e => by
    simp only [prunOut, Option.some.injEq, Prod.mk.injEq] at e
    obtain ⟨rfl, rfl⟩ := e
    exact ⟨h, rfl⟩
  | op :: r, s, s', q, outs, h, ha, e => by
    obtain ⟨hc, hg, hr⟩ := ha
    unfold prunOut at e
    cases hs : pstep s op with
    | none => rw [hs] at e; cases e
    | some s1 =>
      rw [hs] at e
      simp only at e
      cases hrest : prunOut s1 r with
      | none => rw [hrest] at e; cases e
      | some pr =>
        obtain ⟨s2, outs2⟩ := pr
        rw [hrest] at e
        simp only [Option.some.injEq, Prod.mk.injEq] at e
        obtain ⟨rfl, rfl⟩ := e
        obtain ⟨h1, o1⟩ := pq_step h hc hg hs
        obtain ⟨h2, o2⟩ := pq_run r s1 s2 (qstep q op).1 outs2 h1 (hr s1 hs) hrest
        exact ⟨h2, by simp only [qrunOut]; rw [o1, o2]⟩

theorem PQS.init (classes : List (Nat × Nat)) (hpos : ∀ c ∈ classes, 0 < c.1) :
    PQS (Mem.create classes).slots.length { m := Mem.create classes } {} := by
  have d0 : DirOK (Mem.create classes) {} {} {} :=
    ⟨rfl, rfl, (fun _ h => nomatch h), (fun _ h => nomatch h), rfl, rfl⟩
  exact ⟨PI.init classes hpos, d0, d0⟩

/-- the peer reads the chain back: every slice of the send buffer re-appears, with the same unread bytes, at the end of
    the receive buffer -/
theorem moveChain_spec (m m1 : Mem) (l : LBuf) (wi : Nat) (hw : m.WF) (hi : WInv m l wi) (ht : wi + 1 = l.sl.length)
    (hne : ∀ t, l.sl[wi]? = some t → t.ri < t.wi) (hf : l.fromShm = true) (D : DoneFold m l (wi + 1) m1) :
    ∀ (n j : Nat) (fuel : Nat) (r : LBuf) (sj : BS) (ij : Nat), j + n = wi + 1 → 0 < n → n ≤ fuel →
      l.sl[j]? = some sj → sj.slot = some ij →
      ∃ r', moveChain fuel m1 r ij = some (m1, r') ∧
        content m1 r'.sl = content m1 r.sl ++ content m (l.sl.drop j) ∧
        (SlicesWF m1 r.sl → SlicesWF m1 r'.sl) ∧
        (r.len = (content m1 r.sl).length → r'.len = (content m1 r'.sl).length) := by
  intro n j fuel r sj ij hjn hn hfuel hsj hij
  obtain ⟨hc, hco, hwf⟩ := done_chain m m1 l wi hi ht hne hf D n j sj ij hjn hn hsj hij
  have hlen : (heldS (l.sl.drop j)).length ≤ fuel := by
    have : (heldS (l.sl.drop j)).length ≤ (l.sl.drop j).length := length_filterMap_le _ _
    rw [length_drop] at this; omega
  obtain ⟨r', e, h1, _, h3⟩ := moveChain_len m1 _ ij fuel r hc hlen
  refine ⟨r', e, by rw [h1, content_append, hco], fun h => ?_, fun h => ?_⟩
  · rw [h1]; exact fun t ht' => (mem_append.mp ht').elim (h t) (hwf t)
  · rw [h3, h1, content_append, length_append, h, content_length_sizes m1 _ hwf]

/-- **Transport through shared memory.** A send buffer produced by the writer operations (all slices in shared memory,
    the stream not in fall-back) is flushed: `done` writes the chain into the slot headers, the queue element carries the
    offset of the first slice, and the peer's `moveTo` appends the re-read slices to its receive buffer.  The peer's
    buffered byte sequence grows by exactly the sender's buffered byte sequence; no payload byte is touched. -/
theorem transport_shm (m : Mem) (x peer : StreamM) (wi : Nat) (hw : m.WF) (hi : WInv m x.send wi)
    (ht : wi + 1 = x.send.sl.length) (hne : ∀ t, x.send.sl[wi]? = some t → t.ri < t.wi)
    (hlen : x.send.len ≠ 0) (hfb : x.inFallback = false) (hf : x.send.fromShm = true) (hp : peer.pending = []) :
    ∃ m1 x' peer' peer'', flush m x peer = (m1, x', peer', .shm) ∧ moveTo m1 peer' = some (m1, peer'') ∧
      content m1 peer''.recv.sl = content m1 peer.recv.sl ++ content m x.send.sl ∧
      (∀ j, (m1.slot j).data = (m.slot j).data) ∧
      (SlicesWF m1 peer.recv.sl → SlicesWF m1 peer''.recv.sl) ∧
      (peer.recv.len = (content m1 peer.recv.sl).length → peer''.recv.len = (content m1 peer''.recv.sl).length) ∧
      peer''.pending = [] := by
  obtain ⟨m1, hd, D⟩ := done_spec m x.send wi hi ht hf
  obtain ⟨s0, hs0⟩ : ∃ s, x.send.sl[0]? = some s := ⟨_, getElem?_eq_getElem (by omega)⟩
  obtain ⟨i0, hi0⟩ := Option.isSome_iff_exists.mp (hi.shm hf s0 (mem_of_getElem? hs0))
  obtain ⟨pw, _, _⟩ := done_flight hi ht hne hf D hs0 hi0
  obtain ⟨dc, dw⟩ := done_flightBytes hw hi ht hne hf D hs0 hi0
  obtain ⟨p2, e, _, h2, _, h4, h5⟩ := moveTo_spec (m := m1) (X := { peer with pending := [.shm i0] }) pw
  refine ⟨m1, { x with send := x.send.clean }, { peer with pending := peer.pending ++ [.shm i0] }, p2, ?_, by rw [hp]; exact e,
    by rw [h4, content_append]; exact congrArg _ dc, fun j => (D.data j).1,
    fun h => by rw [h4]; exact fun t ht' => (mem_append.mp ht').elim (h t) (dw t),
    fun h => by rw [h5, h4, content_append, length_append, h, content_length_sizes m1 _ dw], h2⟩
  unfold flush
  rw [if_neg hlen, hd]
  simp only [hfb, hf, Bool.not_true, Bool.or_false, Bool.false_eq_true, if_false, head?_eq_getElem?, hs0, hi0]

/-- **Transport through the connection.** A stream in fall-back state (or whose send buffer contains a heap slice) copies
    its buffered bytes into the event; the peer appends them to its receive buffer as one heap slice. -/
theorem transport_fb (m : Mem) (x peer : StreamM) (wi : Nat) (hi : WInv m x.send wi)
    (ht : wi + 1 = x.send.sl.length) (hlen : x.send.len ≠ 0)
    (hfb : x.inFallback = true ∨ x.send.fromShm = false) (hp : peer.pending = []) :
    ∃ m2 x' peer' peer'', flush m x peer = (m2, x', peer', .fallback) ∧ moveTo m2 peer' = some (m2, peer'') ∧
      content m2 peer''.recv.sl = content m2 peer.recv.sl ++ content m x.send.sl ∧
      (∀ j, (m2.slot j).data = (m.slot j).data) ∧
      (SlicesWF m2 peer.recv.sl → SlicesWF m2 peer''.recv.sl) ∧
      (peer.recv.len = (content m2 peer.recv.sl).length → peer''.recv.len = (content m2 peer''.recv.sl).length) ∧
      peer''.pending = [] ∧ x'.inFallback = true := by
  -- `done`: either nothing (a heap slice is present) or the header chain (payload untouched)
  have hdone : ∃ m1, x.send.done m = some (m1, x.send) ∧ ∀ j, (m1.slot j).data = (m.slot j).data := by
    by_cases hf : x.send.fromShm = true
    · obtain ⟨m1, hd, D⟩ := done_spec m x.send wi hi ht hf
      exact ⟨m1, hd, fun j => (D.data j).1⟩
    · exact ⟨m, by unfold LBuf.done; simp [hf], fun _ => rfl⟩
  obtain ⟨m1, hd, hdata⟩ := hdone
  have hinfb : (x.inFallback || !x.send.fromShm) = true := by rcases hfb with h | h <;> simp [h]
  have hund : x.send.underlying m1 = content m x.send.sl := by
    rw [underlying_eq_content m1 x.send (fun wi' e => by rw [hi.w] at e; cases e; omega), content_untouched (fun p _ => hdata p)]
  have hwf : SlicesWF (x.send.recycle m1).1 [fbSlice (content m x.send.sl)] := fun t ht' => by
    rw [mem_singleton.mp ht']; exact fbSlice_wf _ _
  refine ⟨(x.send.recycle m1).1, { x with send := (x.send.recycle m1).2.clean, inFallback := true },
    { peer with pending := peer.pending ++ [.fb (fbSlice (content m x.send.sl))] },
    { peer with recv := peer.recv.appendSlice (fbSlice (content m x.send.sl)), inFallback := true, pending := [] }, ?_, ?_, ?_,
    fun j => (lrecycle_data m1 _ j).trans (hdata j), fun h t ht' => ?_, fun h => ?_, rfl, rfl⟩
  · unfold flush
    rw [if_neg hlen, hd]
    simp only [hinfb, if_true, hund]
    rfl
  · unfold moveTo
    rw [hp]
    simp only [nil_append, foldl_cons, foldl_nil]
  · show content _ (peer.recv.sl ++ [_]) = _
    rw [content_append, content_fbSlice]
  · exact (mem_append.mp ht').elim (h t) (hwf t)
  · show peer.recv.len + (fbSlice _).size = (content _ (peer.recv.sl ++ [_])).length
    rw [content_append, content_fbSlice, length_append, h]; rfl

end LB

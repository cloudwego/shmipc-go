import ShmVerif.Model.Restart
import ShmVerif.Proof.Lists
/-! Invariant of the listener side of the hot-restart model, for every operation sequence. -/
namespace Restart
open List

/-- the uids of the sessions are distinct and below the next one to be given out -/
structure Uids (sess : List SSess) (next : Nat) : Prop where
  uniq : ∀ u, sess.countP (SSess.hasUid u) ≤ 1
  fresh : ∀ u, next ≤ u → sess.countP (SSess.hasUid u) = 0

theorem Uids.map {sess : List SSess} {next : Nat} (h : Uids sess next) (f : SSess → SSess) (hf : ∀ x, (f x).uid = x.uid) :
    Uids (sess.map f) next := by
  have e : ∀ u, (sess.map f).countP (SSess.hasUid u) = sess.countP (SSess.hasUid u) := fun u => by
    rw [List.countP_map]; congr 1; funext x; simp [SSess.hasUid, hf]
  exact ⟨fun u => e u ▸ h.uniq u, fun u hu => e u ▸ h.fresh u hu⟩

theorem Uids.filter {sess : List SSess} {next : Nat} (h : Uids sess next) (q : SSess → Bool) : Uids (sess.filter q) next :=
  ⟨fun u => Nat.le_trans (List.filter_sublist.countP_le) (h.uniq u),
   fun u hu => Nat.le_zero.mp (h.fresh u hu ▸ List.filter_sublist.countP_le)⟩

theorem Uids.add {sess : List SSess} {next : Nat} (h : Uids sess next) (hs : Bool) :
    Uids (sess ++ [{ uid := next, hsDone := hs }]) (next + 1) := by
  have e : ∀ u, (sess ++ [({ uid := next, hsDone := hs } : SSess)]).countP (SSess.hasUid u) =
      sess.countP (SSess.hasUid u) + (if next = u then 1 else 0) := fun u => by
    simp [List.countP_append, List.countP_singleton, SSess.hasUid]
  constructor
  · intro u; rw [e]
    by_cases hu : next = u
    · rw [if_pos hu, h.fresh u (Nat.le_of_eq hu)]; omega
    · rw [if_neg hu]; exact h.uniq u
  · intro u hu; rw [e, h.fresh u (by omega), if_neg (by omega)]

structure LInv (l : Listener) : Prop where
  /-- the checkHotRestart goroutine is alive exactly during a hand-over: the state is always left by its tick or time-out -/
  chk : l.checker = true ↔ l.state = .hot
  /-- the counter is the notified sessions still to acknowledge plus those that closed meanwhile; it is never negative -/
  cnt : l.ackCount = ((l.hotCount + l.lostHot : Nat) : Int)
  /-- outside a hand-over nobody waits: HotRestart starts from a counter of zero -/
  idle : l.state ≠ .hot → l.hotCount = 0 ∧ l.lostHot = 0
  /-- an ack names its session by uid: it must find at most one -/
  uids : Uids l.sess l.nextUid

theorem linv_init : LInv {} := by
  refine ⟨by simp, by simp [Listener.hotCount], by simp [Listener.hotCount], ⟨by simp, by simp⟩⟩

theorem linv_add {l : Listener} (h : LInv l) (hs : Bool) : LInv (l.add hs) := by
  have e : (l.add hs).hotCount = l.hotCount := by
    simp [Listener.add, Listener.hotCount, List.countP_append, SSess.isHot]
  exact ⟨h.chk, e ▸ h.cnt, e ▸ h.idle, h.uids.add hs⟩

theorem linv_hsDone {l : Listener} (h : LInv l) (uid : Nat) : LInv (l.hsDone uid) := by
  have e : (l.hsDone uid).hotCount = l.hotCount := by
    unfold Listener.hsDone Listener.hotCount
    rw [List.countP_map]; congr 1; funext x; show SSess.isHot (if _ then _ else _) = _; split <;> rfl
  exact ⟨h.chk, e ▸ h.cnt, e ▸ h.idle, h.uids.map _ fun x => by split <;> rfl⟩

theorem linv_drop {l : Listener} (h : LInv l) (uid : Nat) : LInv (l.drop uid) := by
  -- the hot sessions that go are counted as lost
  have key : (l.drop uid).hotCount + (l.drop uid).lostHot = l.hotCount + l.lostHot := by
    have := countP_and_add SSess.isHot (fun s => !s.hasUid uid) l.sess
    simp only [Listener.drop, Listener.hotCount, List.countP_filter, Bool.not_not] at this ⊢
    rw [show (fun s : SSess => s.hasUid uid && s.isHot) = fun s => s.isHot && s.hasUid uid from funext fun s => Bool.and_comm ..]
    omega
  refine ⟨h.chk, ?_, fun h1 => ?_, h.uids.filter _⟩
  · rw [key]; exact h.cnt
  · have := h.idle h1; omega

theorem hot_after_mark (l : List SSess) :
    (l.map (fun s => if s.state = .default then { s with state := SS.hot } else s)).countP SSess.isHot
      = (l.filter (fun s => s.state = .default)).length + l.countP SSess.isHot := by
  induction l with
  | nil => simp
  | cons x xs ih =>
    simp only [List.map_cons, List.countP_cons, List.filter_cons, ih]
    cases hx : x.state <;> simp [SSess.isHot, hx] <;> omega

theorem linv_hotRestart {l : Listener} (h : LInv l) (e : Nat) : LInv (l.hotRestart e).1 := by
  unfold Listener.hotRestart
  by_cases hs : l.state = .hot
  · rw [if_pos hs]; exact h
  rw [if_neg hs]
  by_cases hh : l.sess.any (fun s => !s.hsDone) = true
  · rw [if_pos hh]; exact h
  rw [if_neg hh]
  have hi := h.idle hs
  refine ⟨⟨fun _ => rfl, fun _ => rfl⟩, ?_, fun h1 => absurd rfl h1, h.uids.map _ fun x => by split <;> rfl⟩
  have := h.cnt
  simp only [Listener.hotCount] at this hi ⊢
  rw [hot_after_mark, this, hi.1, hi.2]; simp

/-- The three exits of `ack`: nothing changes, because no session has the uid or because the ack is not expected (wrong
    epoch, no hand-over, or that session is not waiting); or it is counted and every session of that uid stops waiting. -/
theorem Listener.ack_cases (l : Listener) (uid e : Nat) :
    (l.ack uid e = l ∧ ((∀ s ∈ l.sess, s.uid ≠ uid) ∨
      ∃ s ∈ l.sess, s.uid = uid ∧ ¬(e = l.epoch ∧ l.state = .hot ∧ s.state = .hot))) ∨
    ∃ s ∈ l.sess, s.uid = uid ∧ (e = l.epoch ∧ l.state = .hot ∧ s.state = .hot) ∧
      l.ack uid e = { l with ackCount := l.ackCount - 1,
                             sess := l.sess.map (fun x => if x.uid = uid then { x with state := .hotDone } else x) } := by
  unfold Listener.ack
  cases hf : l.sess.find? (·.uid = uid) with
  | none => exact .inl ⟨rfl, .inl fun s hs => by simpa using List.find?_eq_none.mp hf s hs⟩
  | some s =>
    have hm := List.mem_of_find?_eq_some hf
    have hp : s.uid = uid := by simpa using List.find?_some hf
    by_cases hc : e = l.epoch ∧ l.state = .hot ∧ s.state = .hot
    · exact .inr ⟨s, hm, hp, hc, if_pos hc⟩
    · exact .inl ⟨if_neg hc, .inr ⟨s, hm, hp, hc⟩⟩

theorem linv_ack {l : Listener} (h : LInv l) (uid e : Nat) : LInv (l.ack uid e) := by
  rcases l.ack_cases uid e with ⟨h0, _⟩ | ⟨s, hm, hp, hc, h0⟩ <;> rw [h0]
  · exact h
  -- exactly one session has this uid, and it is waiting: one hot session less
  have hpos : 0 < l.sess.countP (fun x => x.isHot && x.hasUid uid) :=
    List.countP_pos_iff.mpr ⟨s, hm, by simp [SSess.isHot, SSess.hasUid, hc.2.2, hp]⟩
  have hle : l.sess.countP (fun x => x.isHot && x.hasUid uid) ≤ l.sess.countP (SSess.hasUid uid) :=
    List.countP_mono_left fun x _ hx => (Bool.and_eq_true _ _ ▸ hx).2
  have hu := h.uids.uniq uid
  have hsplit := countP_and_add SSess.isHot (SSess.hasUid uid) l.sess
  refine ⟨h.chk, ?_, fun h1 => absurd hc.2.1 h1, h.uids.map _ fun x => by split <;> rfl⟩
  have hc' := h.cnt
  simp only [Listener.hotCount] at hc' ⊢
  rw [List.countP_map, show SSess.isHot ∘ (fun x : SSess => if x.uid = uid then { x with state := SS.hotDone } else x) =
    fun x => x.isHot && !x.hasUid uid from funext fun x => by
      by_cases hu : x.uid = uid <;> simp [hu, SSess.isHot, SSess.hasUid], hc']
  omega

theorem linv_tick {l : Listener} (h : LInv l) : LInv l.tick := by
  unfold Listener.tick
  by_cases hc : (!l.checker) = true
  · rw [if_pos hc]; exact h
  rw [if_neg hc]
  by_cases hs : l.state ≠ .hot
  · rw [if_pos hs]; exact ⟨⟨nofun, fun hh => absurd hh hs⟩, h.cnt, h.idle, h.uids⟩
  rw [if_neg hs]
  by_cases hz : l.ackCount = 0
  · rw [if_pos hz]
    -- every notified session has acknowledged and none was lost
    refine ⟨⟨nofun, nofun⟩, h.cnt, fun _ => ?_, h.uids⟩
    have := h.cnt
    show l.hotCount = 0 ∧ l.lostHot = 0
    omega
  · rw [if_neg hz]; exact h

theorem linv_timeout {l : Listener} (h : LInv l) : LInv l.timeout := by
  unfold Listener.timeout
  split
  · exact h
  · have e0 : (l.sess.map (fun s => { s with state := SS.default })).countP SSess.isHot = 0 := by
      rw [List.countP_map]; simp [SSess.isHot, Function.comp_def]
    exact ⟨by simp, by simp [Listener.hotCount, e0], fun _ => by simp [Listener.hotCount, e0], h.uids.map _ fun _ => rfl⟩

theorem linv_step {l : Listener} (h : LInv l) (op : LOp) : LInv (l.step op) := by
  cases op with
  | hotRestart e => exact linv_hotRestart h e
  | ack u e => exact linv_ack h u e
  | tick => exact linv_tick h
  | timeout => exact linv_timeout h
  | add hs => exact linv_add h hs
  | hsDone u => exact linv_hsDone h u
  | drop u => exact linv_drop h u

theorem linv_run {l : Listener} (h : LInv l) (ops : List LOp) : LInv (l.run ops) :=
  List.foldlRecOn ops Listener.step h fun _ hb op _ => linv_step hb op

end Restart

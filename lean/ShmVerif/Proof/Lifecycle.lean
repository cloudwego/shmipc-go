import ShmVerif.Model.Lifecycle
import ShmVerif.Proof.Lists
/-! Invariant of the session-lifecycle model: the reference counts of the buffer-manager table are exactly the sessions
    that hold a reference; a session is cleaned up at most once; a cleaned session holds nothing.
    At the end, namespace `Estab`: the invariant of the tail of `newSession` against the event loop. -/
namespace Lifecycle
open List

def holds (p : Nat) (x : Sess) : Bool := x.holdsRef && x.path == p

structure SInv (x : Sess) : Prop where
  postedSd : x.posted = true → x.shutdown = true ∧ x.cleaned = false
  cleanedSd : x.cleaned = true → x.shutdown = true ∧ x.streams = 0 ∧ x.connOpen = false ∧ x.holdsRef = false ∧ x.queueMapped = false
  live : x.cleaned = false → x.holdsRef = true ∧ x.queueMapped = true ∧ x.connOpen = true
  notif : x.notified = (if x.shutdown then 1 else 0)
  sdDone : x.shutdown = true → x.posted = true ∨ x.cleaned = true

structure Inv (s : Sys) : Prop where
  refs : ∀ p, s.refs p = s.sess.countP (holds p)
  each : ∀ x ∈ s.sess, SInv x

theorem inv_init : Inv {} := ⟨by intro p; simp, by intro x hx; simp at hx⟩

theorem inv_newSess {s : Sys} (h : Inv s) (p : Nat) : Inv (newSess s p) := by
  unfold newSess Sys.setRef
  constructor
  · intro q
    simp only [List.countP_append, List.countP_singleton, h.refs]
    by_cases hq : q = p
    · subst hq; simp [holds]
    · simp [hq, holds, Ne.symm hq]
  · intro x hx
    rcases List.mem_append.mp hx with h1 | h1
    · exact h.each x h1
    · simp at h1; subst h1; constructor <;> simp

/-- Session `k` becomes `y`; the table follows what `y` holds. (The invariant reads nothing else of the system.) -/
theorem inv_set {s s' : Sys} (h : Inv s) {k : Nat} {x y : Sess} (hx : s.sess[k]? = some x) (hs : s'.sess = s.sess.set k y)
    (hy : SInv y) (hr : ∀ p, s'.refs p + (holds p x).toNat = s.refs p + (holds p y).toNat) : Inv s' := by
  constructor
  · intro p
    have := List.countP_set_add (holds p) y hx
    have := hr p; have := h.refs p
    rw [hs]; omega
  · intro z hz
    rw [hs] at hz
    rcases List.mem_or_eq_of_mem_set hz with h1 | h1
    · exact h.each z h1
    · exact h1 ▸ hy

theorem inv_upd {s : Sys} (h : Inv s) (k : Nat) (f : Sess → Sess)
    (hh : ∀ x p, holds p (f x) = holds p x) (hs : ∀ x, s.sess[k]? = some x → SInv x → SInv (f x)) : Inv (upd s k f) := by
  unfold upd
  cases hx : s.sess[k]? with
  | none => exact h
  | some x => exact inv_set h hx rfl (hs x hx (h.each x (List.mem_of_getElem? hx))) (fun p => by rw [hh])

theorem inv_close {s : Sys} (h : Inv s) (k : Nat) : Inv (close s k) := by
  unfold close
  cases hx : s.sess[k]? with
  | none => exact h
  | some x =>
    show Inv (if _ then _ else _)
    by_cases hsd : x.shutdown = true
    · rw [if_pos hsd]; exact h
    rw [if_neg hsd]
    refine inv_upd h k _ (fun _ _ => rfl) fun y hy hi => ?_
    cases hx.symm.trans hy
    -- not shut down: neither posted nor cleaned
    have hnc : x.cleaned = false := Bool.eq_false_iff.mpr fun hc => hsd (hi.cleanedSd hc).1
    have hn := hi.notif; rw [if_neg hsd] at hn
    exact ⟨fun _ => ⟨rfl, hnc⟩, fun hc => Bool.noConfusion (hnc.symm.trans hc), fun _ => hi.live hnc, by simp [hn], fun _ => .inl rfl⟩

/-- the clean-up of a session whose clean-up is posted: the session is cleaned, its memory loses one reference -/
theorem cleanup_spec {s : Sys} {k : Nat} {x : Sess} (hx : s.sess[k]? = some x) (hp : x.posted = true) :
    (cleanup s k).sess = s.sess.set k x.cleanedUp ∧
    ∀ p, (cleanup s k).refs p = if p = x.path then s.refs p - 1 else s.refs p := by
  unfold cleanup
  simp only [hx, hp, upd, Bool.not_true, Bool.false_eq_true, if_false]
  by_cases hn : s.refs x.path ≤ 1
  · rw [if_pos hn]; refine ⟨rfl, fun p => ?_⟩
    show (if p = x.path then 0 else s.refs p) = _
    by_cases hpp : p = x.path
    · rw [if_pos hpp, if_pos hpp, hpp]; omega
    · rw [if_neg hpp, if_neg hpp]
  · rw [if_neg hn]; refine ⟨rfl, fun p => ?_⟩
    show (if p = x.path then s.refs x.path - 1 else s.refs p) = _
    by_cases hpp : p = x.path
    · rw [if_pos hpp, if_pos hpp, hpp]
    · rw [if_neg hpp, if_neg hpp]

theorem inv_cleanup {s : Sys} (h : Inv s) (k : Nat) : Inv (cleanup s k) := by
  cases hx : s.sess[k]? with
  | none => simpa [cleanup, hx] using h
  | some x =>
    by_cases hp : x.posted = true
    · obtain ⟨c1, c2⟩ := cleanup_spec hx hp
      have hxi := h.each x (List.mem_of_getElem? hx)
      have hsd := hxi.postedSd hp
      have hlive := hxi.live hsd.2
      refine inv_set h hx c1 ?_ fun p => ?_
      · constructor <;> simp [hsd.1, Sess.cleanedUp]
        simpa [hsd.1] using hxi.notif
      · -- the session held a reference on its path, so that count is positive
        have hpos : 0 < s.refs x.path := by
          rw [h.refs]; exact List.countP_pos_iff.mpr ⟨x, List.mem_of_getElem? hx, by simp [holds, hlive.1]⟩
        rw [c2]
        by_cases hpp : p = x.path
        · subst hpp; simp [holds, hlive.1, Sess.cleanedUp]; omega
        · simp [holds, hpp, Ne.symm hpp, Sess.cleanedUp]
    · simpa [cleanup, hx, hp] using h

theorem inv_openCheck {s : Sys} (h : Inv s) (k : Nat) : Inv (openCheck s k).1 := by
  unfold openCheck
  cases hx : s.sess[k]? with
  | none => exact h
  | some x =>
    simp only []
    by_cases h1 : x.opening = true
    · rw [if_pos h1]; exact h
    by_cases h2 : x.shutdown = true
    · rw [if_neg h1, if_pos h2]; exact h
    rw [if_neg h1, if_neg h2]
    exact inv_upd h k _ (fun _ _ => rfl) fun y _ hi => ⟨hi.postedSd, hi.cleanedSd, hi.live, hi.notif, hi.sdDone⟩

theorem inv_openInsert {s : Sys} (h : Inv s) (k : Nat) : Inv (openInsert s k).1 := by
  unfold openInsert
  cases hx : s.sess[k]? with
  | none => exact h
  | some x =>
    simp only []
    by_cases h1 : (!x.opening) = true
    · rw [if_pos h1]; exact h
    by_cases hc : x.cleaned = true
    · rw [if_neg h1, if_pos hc]
      exact inv_upd h k _ (fun _ _ => rfl) fun y _ hi => ⟨hi.postedSd, hi.cleanedSd, hi.live, hi.notif, hi.sdDone⟩
    rw [if_neg h1, if_neg hc]
    refine inv_upd h k _ (fun _ _ => rfl) fun y hy hi => ?_
    cases hx.symm.trans hy
    exact ⟨hi.postedSd, fun hc' => absurd hc' hc, hi.live, hi.notif, hi.sdDone⟩

theorem inv_step {s : Sys} (h : Inv s) (op : Op) : Inv (step s op) := by
  cases op with
  | newSess p => exact inv_newSess h p
  | close k => exact inv_close h k
  | cleanup k => exact inv_cleanup h k
  | openCheck k => exact inv_openCheck h k
  | openInsert k => exact inv_openInsert h k

theorem inv_run {s : Sys} (h : Inv s) (ops : List Op) : Inv (run s ops) :=
  List.foldlRecOn ops step h fun _ hb op _ => inv_step hb op

end Lifecycle

namespace Estab

/-- nothing has gone wrong, and as long as the connection is not registered the queue manager is there and nobody is
    closing; the registration is the thread's last step -/
def safe (s : St) : Bool :=
  !s.panicked && (s.registered || (s.qm && !s.closing)) && (!s.registered || s.pc == .done)

theorem safe_step (s : St) (e : Ev) (h : safe s = true) : safe (step fixedProg s e) = true := by
  simp only [safe, Bool.and_eq_true, Bool.or_eq_true, Bool.not_eq_true', beq_iff_eq] at h ⊢
  obtain ⟨⟨hp, hq⟩, hr⟩ := h
  cases e with
  | t =>
    -- unregistered: the queue manager is there, so recording the name is safe; registered: the thread has finished
    cases hpc : s.pc <;> cases hreg : s.registered <;> simp_all [step, instr, fixedProg, Pc.next]
  | peerBreak => cases hreg : s.registered <;> simp_all [step]
  | cleanup => cases hcl : s.closing <;> simp_all [step]

theorem safe_run (l : List Ev) : safe (run fixedProg l) = true :=
  List.foldlRecOn l (step fixedProg) (by decide) fun s hs e _ => safe_step s e hs

end Estab

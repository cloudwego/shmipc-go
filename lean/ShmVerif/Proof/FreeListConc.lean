import ShmVerif.Proof.FreeListGeom
/-!
  EVERY interleaving of the access-granular free-list model in which no head CAS succeeds on a stale snapshot
  (ghost flag `aba = false`): the slots in the queue `Q` (head … tail, in order) and the slots the threads own
  (held, or in transit between the CAS and the bookkeeping) partition `{0 … n-1}` at every step.

  `Q` is ghost (existentially quantified): a successful tail CAS appends, a successful head CAS drops the first
  element.  A link `a → b` of `Q` is either established (`hasNext a`, `next a = b`) or pending (the pusher that
  won the tail CAS on `a` has not yet written both words); poppers cannot advance over a pending link, and the
  tail never has `hasNext`, so the queue never empties and nobody is handed a slot that is still in `Q`.

  When every thread is between two operations, `Q` is the free chain and `size` its length (`cq_boundary`);
  `FreeListSeq` reads the sequential-atomic histories off this.
-/
namespace FreeListC

/-- `b` directly follows `a` in `Q`: a link of the ghost queue -/
def Adj : List Nat → Nat → Nat → Prop
  | x :: y :: r, a, b => (x = a ∧ y = b) ∨ Adj (y :: r) a b
  | _, _, _ => False

theorem adj_mem {Q : List Nat} {a b : Nat} (h : Adj Q a b) : a ∈ Q := by
  fun_induction Adj Q a b with
  | case1 x y r a b ih =>
    rcases h with ⟨rfl, rfl⟩ | h
    · simp
    · exact List.mem_cons_of_mem _ (ih h)
  | case2 => exact h.elim

theorem adj_unique {Q : List Nat} {a b b' : Nat} (nd : Q.Nodup) (h : Adj Q a b) (h' : Adj Q a b') : b = b' := by
  fun_induction Adj Q a b with
  | case1 x y r a b ih =>
    have ⟨hx, ndr⟩ := List.nodup_cons.mp nd
    rcases h with ⟨rfl, rfl⟩ | h <;> rcases h' with ⟨h1, rfl⟩ | h'
    · rfl
    · exact absurd (adj_mem h') hx
    · subst h1; exact absurd (adj_mem h) hx
    · exact ih ndr h h'
  | case2 => exact h.elim

theorem adj_not_last {Q : List Nat} {a b : Nat} (nd : Q.Nodup) (h : Adj Q a b) : Q.getLast? ≠ some a := by
  fun_induction Adj Q a b with
  | case1 x y r a b ih =>
    have ⟨hx, ndr⟩ := List.nodup_cons.mp nd
    rw [List.getLast?_cons_cons]
    rcases h with ⟨rfl, rfl⟩ | h
    · exact fun hl => hx (List.mem_of_getLast? hl)
    · exact ih ndr h
  | case2 => exact h.elim

theorem adj_snoc {Q : List Nat} {a b o : Nat} (h : Adj Q a b) : Adj (Q ++ [o]) a b := by
  fun_induction Adj Q a b with
  | case1 x y r a b ih => exact h.imp id ih
  | case2 => exact h.elim

theorem adj_of_snoc {Q : List Nat} {a b o : Nat} (h : Adj (Q ++ [o]) a b) :
    Adj Q a b ∨ (Q.getLast? = some a ∧ b = o) := by
  induction Q with
  | nil => exact h.elim
  | cons x r ih =>
    cases r with
    | nil =>
      simp only [List.cons_append, List.nil_append, Adj] at h
      rcases h with ⟨rfl, rfl⟩ | h
      · right; simp
      · exact h.elim
    | cons y r' =>
      rw [List.getLast?_cons_cons]
      rcases h with h | h
      · exact Or.inl (Or.inl h)
      · exact (ih h).imp Or.inr id

theorem adj_snoc_last {Q : List Nat} {a o : Nat} (h : Q.getLast? = some a) : Adj (Q ++ [o]) a o := by
  induction Q with
  | nil => simp at h
  | cons x r ih =>
    cases r with
    | nil => exact Or.inl ⟨Option.some.inj h, rfl⟩
    | cons y r' => exact Or.inr (ih (List.getLast?_cons_cons ▸ h))

theorem adj_tail {x : Nat} {Q : List Nat} {a b : Nat} (h : Adj (x :: Q) a b) (hne : a ≠ x) : Adj Q a b := by
  cases Q with
  | nil => exact h.elim
  | cons y r =>
    simp only [Adj] at h
    rcases h with ⟨h1, _⟩ | h
    · exact absurd h1.symm hne
    · exact h

theorem adj_cons {x : Nat} {Q : List Nat} {a b : Nat} (h : Adj Q a b) : Adj (x :: Q) a b := by
  cases Q with
  | nil => exact h.elim
  | cons y r => simp only [Adj]; exact Or.inr h

theorem chain_link {sl : List Slot} {Q : List Nat} {a b : Nat} (hc : Chain sl Q) (h : Adj Q a b) :
    (gs sl a).hasNext = true ∧ (gs sl a).next = b := by
  fun_induction Adj Q a b with
  | case1 x y r a b ih =>
    rcases h with ⟨rfl, rfl⟩ | h
    · exact ⟨hc.1, hc.2.1⟩
    · exact ih hc.2.2 h
  | case2 => exact h.elim

theorem chain_last {sl : List Slot} {Q : List Nat} {t : Nat} (hc : Chain sl Q) (h : Q.getLast? = some t) :
    (gs sl t).hasNext = false := by
  fun_induction Chain sl Q with
  | case1 => exact hc.elim
  | case2 a => exact Option.some.inj h ▸ hc
  | case3 a b r ih => exact ih hc.2.2 (List.getLast?_cons_cons ▸ h)

theorem chain_of_links {sl : List Slot} : ∀ {Q : List Nat} {t : Nat}, Q.getLast? = some t →
    (∀ a b, Adj Q a b → (gs sl a).hasNext = true ∧ (gs sl a).next = b) → (gs sl t).hasNext = false → Chain sl Q
  | [], t, h, _, _ => by simp at h
  | [a], t, h, _, ht => by
    simp at h; subst h; exact ht
  | a :: b :: r, t, h, hl, ht => by
    rw [List.getLast?_cons_cons] at h
    have h0 := hl a b (Or.inl ⟨rfl, rfl⟩)
    exact ⟨h0.1, h0.2, chain_of_links h (fun x y hxy => hl x y (adj_cons hxy)) ht⟩

/-- the slot a thread has taken out of the queue (head CAS won) or has not yet put in (tail CAS not yet won) and that
    is not in `held` -/
def transit (th : Th) : List Nat :=
  match th.pc with
  | .pClear | .pSetUsed | .pCnt => [th.oldHead]
  | .uReset | .uLdTail | .uCas => [th.o]
  | _ => []

def ownedC (th : Th) : List Nat := th.held ++ transit th

def ownCnt (ths : List Th) (i : Nat) : Nat := (ths.map (fun th => (ownedC th).count i)).sum

theorem ownCnt_set (ths : List Th) (t : Nat) (th th' : Th) (i : Nat) (h : ths[t]? = some th) :
    ownCnt (ths.set t th') i + (ownedC th).count i = ownCnt ths i + (ownedC th').count i :=
  List.sum_map_set (fun th => (ownedC th).count i) th' h

/-- has won the tail CAS on `ot` and not yet written both words of the link `ot → o` -/
def Pend (th : Th) : Prop := th.pc = .uLink0 ∨ th.pc = .uLink1

theorem startNextAux_spec (ops : List Op) (t : Th) :
    AtBoundary (startNextAux t ops) ∧ (startNextAux t ops).lver = t.lver ∧
      ∀ i, (ownedC (startNextAux t ops)).count i = t.held.count i := by
  induction ops generalizing t with
  | nil => exact ⟨Or.inl rfl, rfl, fun i => by simp [startNextAux, ownedC, transit]⟩
  | cons op r ih =>
    cases op with
    | pop => exact ⟨Or.inr (Or.inl rfl), rfl, fun i => by simp [startNextAux, ownedC, transit]⟩
    | push k =>
      simp only [startNextAux]
      split
      · exact ih _
      · rename_i o ho
        refine ⟨Or.inr (Or.inr rfl), rfl, fun i => ?_⟩
        have := List.count_eraseIdx i ho
        simp only [ownedC, transit, List.count_append, List.count_singleton, beq_iff_eq]
        omega

theorem finishOp_spec (t : Th) (r : Res) :
    AtBoundary (finishOp t r) ∧ (finishOp t r).lver = t.lver ∧ ∀ i, (ownedC (finishOp t r)).count i = t.held.count i := by
  exact startNextAux_spec t.prog { t with res := t.res ++ [r] }

theorem boundary_finishOp (t : Th) (r : Res) : AtBoundary (finishOp t r) := (finishOp_spec t r).1

/-- What thread `th` knows, by program counter (`ti_of_pc` is the table).  Every clause about `head` is guarded by
    `lver = hver`: no head CAS has succeeded since I loaded `head`, my snapshot is current.  A popper with a stale
    snapshot knows nothing and needs nothing: with `aba = false` its CAS cannot succeed.  The push clauses need no
    guard: the old tail `ot` is written only by the pusher that won the tail CAS on it. -/
structure TI (slots : List Slot) (head hver : Nat) (Q : List Nat) (th : Th) : Prop where
  lver : th.lver ≤ hver
  cur : (th.pc = .pDec ∨ th.pc = .pHasNext ∨ th.pc = .pNext ∨ th.pc = .pCas ∨ th.pc = .pPlainSize) →
          th.lver = hver → th.oldHead = head
  hn : (th.pc = .pNext ∨ th.pc = .pCas) → th.lver = hver → (gs slots th.oldHead).hasNext = true
  nx : th.pc = .pCas → th.lver = hver → th.nxt = (gs slots th.oldHead).next
  fresh : (th.pc = .uLdTail ∨ th.pc = .uCas) → (gs slots th.o).hasNext = false
  pend : Pend th → Adj Q th.ot th.o ∧ (gs slots th.ot).hasNext = false
  linked : th.pc = .uLink1 → (gs slots th.ot).next = th.o

/-- The invariant of ABA-free interleavings, for the ghost queue `Q`.  It is inductive on its own (`assemble` asks for
    nothing else); `QInv` is inductive relative to it.  The step lemmas (`cq_local` … `step_cq`) carry both so that
    every step is analysed once.  `cnt`: queue and owned slots are the `n` slots, each once; `link`, `tl`: an
    established link of `Q` is the `next` word, the tail has none; `uniq`: one pusher per pending link. -/
structure CInv (n : Nat) (s : State) (Q : List Nat) : Prop where
  len : s.slots.length = n
  head : Q.head? = some s.head
  last : Q.getLast? = some s.tail
  cnt : ∀ i, Q.count i + ownCnt s.ths i = if i < n then 1 else 0
  link : ∀ a b, Adj Q a b → (gs s.slots a).hasNext = true → (gs s.slots a).next = b
  tl : (gs s.slots s.tail).hasNext = false
  ti : ∀ (t : Nat) (th : Th), s.ths[t]? = some th → TI s.slots s.head s.hver Q th
  uniq : ∀ (t t' : Nat) (th th' : Th), t ≠ t' → s.ths[t]? = some th → s.ths[t']? = some th' → Pend th → Pend th' → th.ot ≠ th'.ot

/-- `TI` is a table by program counter: to establish it for a thread, supply what its pc asks for (the `match`
    reduces once the pc is known, so each use states exactly the facts the new pc needs) -/
theorem ti_of_pc {slots : List Slot} {head hver : Nat} {Q : List Nat} {th : Th} (hl : th.lver ≤ hver)
    (h : match th.pc with
      | .pDec | .pHasNext | .pPlainSize => th.lver = hver → th.oldHead = head
      | .pNext => th.lver = hver → th.oldHead = head ∧ (gs slots th.oldHead).hasNext = true
      | .pCas => th.lver = hver →
          th.oldHead = head ∧ (gs slots th.oldHead).hasNext = true ∧ th.nxt = (gs slots th.oldHead).next
      | .uLdTail | .uCas => (gs slots th.o).hasNext = false
      | .uLink0 => Adj Q th.ot th.o ∧ (gs slots th.ot).hasNext = false
      | .uLink1 => Adj Q th.ot th.o ∧ (gs slots th.ot).hasNext = false ∧ (gs slots th.ot).next = th.o
      | _ => True) : TI slots head hver Q th := by
  refine ⟨hl, ?_, ?_, ?_, ?_, ?_, ?_⟩
  · rintro (p | p | p | p | p) e <;> simp only [p] at h
    · exact h e
    · exact h e
    · exact (h e).1
    · exact (h e).1
    · exact h e
  · rintro (p | p) e <;> simp only [p] at h
    · exact (h e).2
    · exact (h e).2.1
  · intro p e; simp only [p] at h; exact (h e).2.2
  · rintro (p | p) <;> simp only [p] at h <;> exact h
  · rintro (p | p) <;> simp only [p] at h
    · exact h
    · exact ⟨h.1, h.2.1⟩
  · intro p; simp only [p] at h; exact h.2.2

theorem ti_boundary {slots : List Slot} {head hver : Nat} {Q : List Nat} {th : Th}
    (hb : AtBoundary th) (hl : th.lver ≤ hver) : TI slots head hver Q th :=
  ti_of_pc hl (by rcases hb with h | h | h <;> rw [h] <;> trivial)

theorem CInv.nodup {n : Nat} {s : State} {Q : List Nat} (I : CInv n s Q) : Q.Nodup := by
  rw [List.nodup_iff_count]
  intro a
  have := I.cnt a
  split at this <;> omega

theorem CInv.mem_lt {n : Nat} {s : State} {Q : List Nat} (I : CInv n s Q) {a : Nat} (h : a ∈ Q) : a < n := by
  have := I.cnt a
  have hc : 0 < Q.count a := List.count_pos_iff.mpr h
  split at this <;> omega

theorem CInv.owned_not_mem {n : Nat} {s : State} {Q : List Nat} (I : CInv n s Q) {t : Nat} {th : Th} {x : Nat}
    (hth : s.ths[t]? = some th) (hx : x ∈ ownedC th) : x ∉ Q ∧ x < n := by
  have := I.cnt x
  have h1 : 0 < (ownedC th).count x := List.count_pos_iff.mpr hx
  have h2 := List.le_sum_map (fun th => (ownedC th).count x) (List.mem_of_getElem? hth)
  unfold ownCnt at this
  constructor
  · intro hq
    have hc : 0 < Q.count x := List.count_pos_iff.mpr hq
    split at this <;> omega
  · split at this <;> omega

theorem CInv.owned_disjoint {n : Nat} {s : State} {Q : List Nat} (I : CInv n s Q) {t t' : Nat} {th th' : Th} {x : Nat}
    (hne : t ≠ t') (hth : s.ths[t]? = some th) (hth' : s.ths[t']? = some th') (hx : x ∈ ownedC th) : x ∉ ownedC th' := by
  intro hx'
  have := I.cnt x
  have h1 : 0 < (ownedC th).count x := List.count_pos_iff.mpr hx
  have h1' : 0 < (ownedC th').count x := List.count_pos_iff.mpr hx'
  have h2 := List.sum_map_ge2 (fun th => (ownedC th).count x) hne hth hth'
  unfold ownCnt at this
  split at this <;> omega

theorem ownCnt_eq_count (ths : List Th) (i : Nat) : (ths.flatMap ownedC).count i = ownCnt ths i := by
  unfold ownCnt
  rw [List.count_flatMap]
  rfl

theorem CInv.partition {n : Nat} {s : State} {Q : List Nat} (I : CInv n s Q) :
    (Q ++ s.ths.flatMap ownedC).Perm (List.range n) := by
  rw [List.perm_iff_count]
  intro i
  rw [List.count_append, ownCnt_eq_count, I.cnt i, List.count_range]

/-- the shared words a thread's invariant looks at are unchanged -/
theorem ti_agree {slots slots' : List Slot} {head hver : Nat} {Q : List Nat} {th : Th} {x : Nat}
    (h : TI slots head hver Q th)
    (ag : ∀ j, j ≠ x → gs slots' j = gs slots j)
    (h1 : (th.pc = .pNext ∨ th.pc = .pCas) → th.lver = hver → th.oldHead ≠ x)
    (h2 : (th.pc = .uLdTail ∨ th.pc = .uCas) → th.o ≠ x)
    (h3 : Pend th → th.ot ≠ x) : TI slots' head hver Q th :=
  ⟨h.lver, h.cur,
   fun p e => by rw [ag _ (h1 p e)]; exact h.hn p e,
   fun p e => by rw [ag _ (h1 (Or.inr p) e)]; exact h.nx p e,
   fun p => by rw [ag _ (h2 p)]; exact h.fresh p,
   fun p => by rw [ag _ (h3 p)]; exact h.pend p,
   fun p => by rw [ag _ (h3 (Or.inr p))]; exact h.linked p⟩

/-- How every step re-establishes `CInv`: thread `t` goes from `th` to `th'`, the state to `s'`, the queue to `Q'`.
    Give the shared facts of `s'` (`len`, `head`, `last`, `link`, `tl`), the balance `cnt` of what `Q` and `t` gain and
    lose, `TI` for the others and for `t`, and that `t` shares no pending link (`uq`). -/
theorem assemble {n : Nat} {s : State} {Q : List Nat} (I : CInv n s Q) {t : Nat} {th : Th} (hth : s.ths[t]? = some th)
    (s' : State) (th' : Th) (Q' : List Nat)
    (hths : s'.ths = s.ths.set t th')
    (len : s'.slots.length = n) (head : Q'.head? = some s'.head) (last : Q'.getLast? = some s'.tail)
    (cnt : ∀ i, Q'.count i + (ownedC th').count i = Q.count i + (ownedC th).count i)
    (link : ∀ a b, Adj Q' a b → (gs s'.slots a).hasNext = true → (gs s'.slots a).next = b)
    (tl : (gs s'.slots s'.tail).hasNext = false)
    (others : ∀ (t' : Nat) (th'' : Th), t' ≠ t → s.ths[t']? = some th'' → TI s'.slots s'.head s'.hver Q' th'')
    (self : TI s'.slots s'.head s'.hver Q' th')
    (uq : Pend th' → ∀ (t' : Nat) (th'' : Th), t' ≠ t → s.ths[t']? = some th'' → Pend th'' → th'.ot ≠ th''.ot) :
    CInv n s' Q' := by
  have ⟨htl, _⟩ := List.getElem?_eq_some_iff.mp hth
  refine ⟨len, head, last, ?_, link, tl, ?_, ?_⟩
  · intro i
    rw [hths]
    have h1 := ownCnt_set s.ths t th th' i hth
    have h2 := I.cnt i
    have h3 := cnt i
    generalize (if i < n then 1 else 0) = k at *
    omega
  · rw [hths]; exact List.forall_getElem?_set (P := fun _ th'' => TI s'.slots s'.head s'.hver Q' th'') others self
  · intro t1 t2 th1 th2 hne h1 h2 p1 p2
    rw [hths, List.getElem?_set] at h1 h2
    by_cases e1 : t = t1 <;> by_cases e2 : t = t2
    · exact absurd (e1.symm.trans e2) hne
    · simp [e1.symm, htl] at h1
      simp [e2] at h2
      subst h1
      exact uq p1 t2 th2 (Ne.symm e2) h2 p2
    · simp [e1] at h1
      simp [e2.symm, htl] at h2
      subst h2
      exact Ne.symm (uq p2 t1 th1 (Ne.symm e1) h1 p1)
    · simp [e1] at h1
      simp [e2] at h2
      exact I.uniq t1 t2 th1 th2 hne h1 h2 p1 p2

theorem ti_mono_Q {slots : List Slot} {head hver : Nat} {Q Q' : List Nat} {th : Th}
    (h : TI slots head hver Q th) (m : ∀ a b, Adj Q a b → Adj Q' a b) : TI slots head hver Q' th :=
  ⟨h.lver, h.cur, h.hn, h.nx, h.fresh, fun p => ⟨m _ _ (h.pend p).1, (h.pend p).2⟩, h.linked⟩

theorem others_modify {n : Nat} {s : State} {Q : List Nat} (I : CInv n s Q) {t : Nat} {th : Th} {x : Nat}
    (hth : s.ths[t]? = some th) (hx : x ∈ ownedC th) (f : Slot → Slot) :
    ∀ (t' : Nat) (th'' : Th), t' ≠ t → s.ths[t']? = some th'' → TI (s.slots.modify x f) s.head s.hver Q th'' := by
  intro t' th'' hne h
  have T'' := I.ti t' th'' h
  have hxQ := (I.owned_not_mem hth hx).1
  apply ti_agree T'' (fun j hj => gs_modify_ne _ _ _ _ hj)
  · intro p e heq
    have := T''.cur (by rcases p with p | p <;> simp [p]) e
    rw [heq] at this
    exact hxQ (this ▸ List.mem_of_head? I.head)
  · intro p heq
    have : th''.o ∈ ownedC th'' := by
      rcases p with p | p <;> simp [ownedC, transit, p]
    exact I.owned_disjoint (Ne.symm hne) hth h hx (heq ▸ this)
  · intro p heq
    exact hxQ (heq ▸ (adj_mem (T''.pend p).1))

theorem link_modify {n : Nat} {s : State} {Q : List Nat} (I : CInv n s Q) {x : Nat} (hxQ : x ∉ Q) (f : Slot → Slot) :
    ∀ a b, Adj Q a b → (gs (s.slots.modify x f) a).hasNext = true → (gs (s.slots.modify x f) a).next = b := by
  intro a b hab
  have : a ≠ x := fun e => hxQ (e ▸ (adj_mem hab))
  rw [gs_modify_ne _ _ _ _ this]
  exact I.link a b hab

theorem tl_modify {n : Nat} {s : State} {Q : List Nat} (I : CInv n s Q) {x : Nat} (hxQ : x ∉ Q) (f : Slot → Slot) :
    (gs (s.slots.modify x f) s.tail).hasNext = false := by
  have : s.tail ≠ x := fun e => hxQ (e ▸ List.mem_of_getLast? I.last)
  rw [gs_modify_ne _ _ _ _ this]
  exact I.tl

def resv (th : Th) : Bool :=
  match th.pc with
  | .pIncFail | .pHasNext | .pNext | .pCas | .pPlainSize | .pReload => true
  | _ => false

/-- has won the tail CAS and not yet counted its slot in `size`: this includes `uIncSize`, where the link is already
    written (the threads with a link still to write are `Pend`) -/
def linking (th : Th) : Bool :=
  match th.pc with
  | .uLink0 | .uLink1 | .uIncSize => true
  | _ => false

/-- weight of a thread in the `size` account: 1 while it holds a reservation or has appended a slot it has not counted yet -/
def wt (th : Th) : Nat := (resv th).toNat + (linking th).toNat

/-- every link of `Q` is established or has a pusher at `uLink0` / `uLink1` responsible for it -/
def Est (slots : List Slot) (ths : List Th) (Q : List Nat) : Prop :=
  ∀ a b, Adj Q a b → (gs slots a).hasNext = true ∨
    ∃ (t0 : Nat) (th0 : Th), ths[t0]? = some th0 ∧ Pend th0 ∧ th0.ot = a

/-- The account of `size` and of the links, inductive relative to `CInv`.  `size` says `size` + Σ `wt` = |Q|, written
    with two `countP`s so that `List.countP_set_add` applies to each. -/
structure QInv (s : State) (Q : List Nat) : Prop where
  size : s.size + (s.ths.countP resv : Int) + (s.ths.countP linking : Int) = (Q.length : Int)
  est : Est s.slots s.ths Q

theorem est_frame {s : State} {Q : List Nat} {t : Nat} {th th' : Th} {slots' : List Slot}
    (hth : s.ths[t]? = some th)
    (hmono : ∀ a, a ∈ Q → (gs s.slots a).hasNext = true → (gs slots' a).hasNext = true)
    (hkeep : Pend th → (Pend th' ∧ th'.ot = th.ot) ∨ (gs slots' th.ot).hasNext = true)
    (E : Est s.slots s.ths Q) : Est slots' (s.ths.set t th') Q := by
  have ⟨htl, _⟩ := List.getElem?_eq_some_iff.mp hth
  intro a b hab
  rcases E a b hab with h | ⟨t0, th0, h0, p0, e0⟩
  · exact Or.inl (hmono a (adj_mem hab) h)
  · by_cases e : t0 = t
    · subst e
      rw [hth] at h0
      have : th = th0 := by simpa using h0
      subst this
      rcases hkeep p0 with ⟨p', e'⟩ | h
      · exact Or.inr ⟨t0, th', by simp [htl], p', e'.trans e0⟩
      · exact Or.inl (e0 ▸ h)
    · exact Or.inr ⟨t0, th0, by rw [List.getElem?_set]; simp [Ne.symm e, h0], p0, e0⟩

theorem boundary_flags {th : Th} (h : AtBoundary th) : resv th = false ∧ linking th = false ∧ ¬ Pend th := by
  rcases h with h | h | h <;> simp [resv, linking, Pend, h]

theorem boundary_counts {ths : List Th} (hb : ∀ th ∈ ths, AtBoundary th) : ths.countP resv = 0 ∧ ths.countP linking = 0 :=
  ⟨List.countP_eq_zero.mpr fun th hm => by simp [(boundary_flags (hb th hm)).1],
   List.countP_eq_zero.mpr fun th hm => by simp [(boundary_flags (hb th hm)).2.1]⟩

theorem qsize {s : State} {Q : List Nat} {t : Nat} {th : Th} (hth : s.ths[t]? = some th)
    (hs : s.size + (s.ths.countP resv : Int) + (s.ths.countP linking : Int) = (Q.length : Int))
    (th' : Th) (sz' : Int) (len' : Nat)
    (h : sz' + (wt th' : Int) - (len' : Int) = s.size + (wt th : Int) - (Q.length : Int)) :
    sz' + ((s.ths.set t th').countP resv : Int) + ((s.ths.set t th').countP linking : Int) = (len' : Int) := by
  have cr := List.countP_set_add resv th' hth
  have cl := List.countP_set_add linking th' hth
  unfold wt at h
  omega

theorem cq_local {n : Nat} {s : State} {Q : List Nat} {t : Nat} {th : Th} (I : CInv n s Q) (J : QInv s Q)
    (hth : s.ths[t]? = some th) (z c : Int) {th' : Th}
    (own : ∀ i, (ownedC th').count i = (ownedC th).count i)
    (self : TI s.slots s.head s.hver Q th') (np : ¬ Pend th ∧ ¬ Pend th')
    (acc : z + wt th' = s.size + wt th) :
    CInv n { s with size := z, counter := c, ths := s.ths.set t th' } Q ∧
      QInv { s with size := z, counter := c, ths := s.ths.set t th' } Q :=
  ⟨assemble I hth _ th' Q rfl I.len I.head I.last (fun i => by rw [own]) I.link I.tl
      (fun t' th'' _ h => I.ti t' th'' h) self (fun p => absurd p np.2),
   qsize hth J.size th' z Q.length (by omega),
   est_frame hth (fun _ _ h => h) (fun p => absurd p np.1) J.est⟩

theorem cq_modify {n : Nat} {s : State} {Q : List Nat} {t : Nat} {th : Th} (I : CInv n s Q) (J : QInv s Q)
    (hth : s.ths[t]? = some th) {x : Nat} (hx : x ∈ ownedC th) (f : Slot → Slot) {th' : Th}
    (own : ∀ i, (ownedC th').count i = (ownedC th).count i)
    (self : TI (s.slots.modify x f) s.head s.hver Q th') (np : ¬ Pend th ∧ ¬ Pend th')
    (acc : wt th' = wt th) :
    CInv n { s with slots := s.slots.modify x f, ths := s.ths.set t th' } Q ∧
      QInv { s with slots := s.slots.modify x f, ths := s.ths.set t th' } Q := by
  have hxQ := (I.owned_not_mem hth hx).1
  refine ⟨assemble I hth _ th' Q rfl (by simp [I.len]) I.head I.last (fun i => by rw [own]) (link_modify I hxQ _)
      (tl_modify I hxQ _) (others_modify I hth hx _) self (fun p => absurd p np.2),
    qsize hth J.size th' s.size Q.length (by omega), est_frame hth ?_ (fun p => absurd p np.1) J.est⟩
  intro a ha h
  rw [gs_modify_ne _ _ _ _ (fun (e : a = x) => hxQ (e ▸ ha))]; exact h

/-- a step that completes an operation: the thread moves on to the start of its next one -/
theorem cq_finish {n : Nat} {s : State} {Q : List Nat} {t : Nat} {th : Th} (I : CInv n s Q) (J : QInv s Q)
    (hth : s.ths[t]? = some th) (z c : Int) (th0 : Th) (r : Res)
    (own : ∀ i, th0.held.count i = (ownedC th).count i) (hl : th0.lver = th.lver) (np : ¬ Pend th)
    (acc : z = s.size + wt th) :
    CInv n { s with size := z, counter := c, ths := s.ths.set t (finishOp th0 r) } Q ∧
      QInv { s with size := z, counter := c, ths := s.ths.set t (finishOp th0 r) } Q := by
  obtain ⟨b, l, o⟩ := finishOp_spec th0 r
  have bf := boundary_flags b
  exact cq_local I J hth z c (fun i => (o i).trans (own i))
    (ti_boundary b (by rw [l, hl]; exact (I.ti t th hth).lver)) ⟨np, bf.2.2⟩ (by simp [wt, bf.1, bf.2.1, acc])

/-- the pusher responsible for the link behind `ot` writes a word of `ot`: nobody else looks at it -/
theorem others_link {n : Nat} {s : State} {Q : List Nat} (I : CInv n s Q) {t : Nat} {th : Th}
    (hth : s.ths[t]? = some th) (P : Adj Q th.ot th.o ∧ (gs s.slots th.ot).hasNext = false) (p : Pend th)
    (f : Slot → Slot) :
    ∀ (t' : Nat) (th'' : Th), t' ≠ t → s.ths[t']? = some th'' → TI (s.slots.modify th.ot f) s.head s.hver Q th'' := by
  intro t' th'' hne h
  have T'' := I.ti t' th'' h
  apply ti_agree T'' (fun j hj => gs_modify_ne _ _ _ _ hj)
  · intro q e heq
    have := T''.hn q e
    rw [heq, P.2] at this; exact absurd this (by simp)
  · intro q heq
    have : th''.o ∈ ownedC th'' := by rcases q with q | q <;> simp [ownedC, transit, q]
    exact (I.owned_not_mem h this).1 (heq ▸ (adj_mem P.1))
  · intro q heq
    exact I.uniq t' t th'' th hne h hth q p heq

/-- the ghost queue after a step: a successful head CAS drops the first element, a successful tail CAS appends -/
def nextQ (s : State) (t : Nat) (Q : List Nat) : List Nat :=
  match s.ths[t]? with
  | none => Q
  | some th =>
    match th.pc with
    | .pCas => if s.head = th.oldHead then Q.tail else Q
    | .uCas => if s.tail = th.ot then Q ++ [th.o] else Q
    | _ => Q

theorem step_cq (n : Nat) (s : State) (Q : List Nat) (t : Nat) (I : CInv n s Q) (J : QInv s Q)
    (ha : (step s t).1.aba = false) :
    CInv n (step s t).1 (nextQ s t Q) ∧ QInv (step s t).1 (nextQ s t Q) := by
  unfold step at ha ⊢
  unfold nextQ
  cases hth : s.ths[t]? with
  | none => exact ⟨I, J⟩
  | some th =>
    rw [hth] at ha
    have T := I.ti t th hth
    cases hpc : th.pc with
    -- first the four steps that change the queue or write a word of a queue slot; every other step is a frame case
    | pCas =>
      simp only [stepTh, hpc] at ha ⊢
      split
      · rename_i hc
        rw [if_pos hc] at ha
        have hclean : th.lver = s.hver := by simp at ha; exact ha.2
        have hN := T.hn (Or.inr hpc) hclean
        -- the queue has at least two elements and its first link is established
        obtain ⟨Q1, rfl⟩ := List.head?_eq_some_iff.mp (hc ▸ I.head)
        obtain ⟨b, r, rfl⟩ : ∃ b r, Q1 = b :: r := by
          cases Q1 with
          | nil =>
            have hl := I.last; simp only [List.getLast?_singleton, Option.some.injEq] at hl
            have := I.tl; rw [← hl, hN] at this; exact absurd this (by simp)
          | cons b r => exact ⟨b, r, rfl⟩
        have hnxt : th.nxt = b := (T.nx hpc hclean).trans (I.link _ b (Or.inl ⟨rfl, rfl⟩) hN)
        refine ⟨assemble I hth _ _ (b :: r) rfl I.len (by simp [hnxt]) (by simpa using I.last) ?_
            (fun a' b' h' => I.link a' b' (adj_cons h')) I.tl ?_ (ti_of_pc (Nat.le_succ_of_le T.lver) trivial)
            (fun p => by simp [Pend] at p),
          qsize hth J.size _ s.size (b :: r).length (by simp [wt, resv, linking, hpc]; omega), ?_⟩
        · intro i
          simp only [ownedC, transit, hpc, List.count_append, List.count_cons, List.count_nil, beq_iff_eq]
          omega
        · intro t' th'' _ h
          have T'' := I.ti t' th'' h
          have stale : th''.lver ≠ s.hver + 1 := by have := T''.lver; omega
          refine ⟨Nat.le_succ_of_le T''.lver, fun _ e => absurd e stale, fun _ e => absurd e stale,
            fun _ e => absurd e stale, T''.fresh, fun p => ⟨adj_tail (T''.pend p).1 ?_, (T''.pend p).2⟩, T''.linked⟩
          intro e
          have := (T''.pend p).2
          rw [e, hN] at this; exact absurd this (by simp)
        · intro a' b' hab
          exact est_frame (th' := { th with pc := .pClear }) hth (fun _ _ h => h) (fun p => by simp [Pend, hpc] at p)
            J.est a' b' (adj_cons hab)
      · exact cq_local I J hth _ _ (by simp [ownedC, transit, hpc]) (ti_of_pc T.lver trivial)
          (by simp [Pend, hpc]) (by simp [wt, resv, linking, hpc])
    | uCas =>
      simp only [stepTh, hpc]
      split
      · rename_i hc
        have hlast : Q.getLast? = some th.ot := hc ▸ I.last
        have ⟨htl, _⟩ := List.getElem?_eq_some_iff.mp hth
        refine ⟨assemble I hth _ _ (Q ++ [th.o]) rfl I.len (by rw [List.head?_append, I.head]; rfl) (by simp) ?_ ?_
            (T.fresh (Or.inr hpc)) (fun t' th'' _ h => ti_mono_Q (I.ti t' th'' h) (fun a b => adj_snoc))
            (ti_of_pc T.lver ⟨adj_snoc_last hlast, hc ▸ I.tl⟩) ?_,
          qsize hth J.size _ s.size (Q ++ [th.o]).length (by simp [wt, resv, linking, hpc]; omega), ?_⟩
        · intro i
          simp only [ownedC, transit, hpc, List.count_append, List.count_cons, List.count_nil]
          omega
        · intro a b hab hN
          rcases adj_of_snoc hab with h1 | ⟨h1, _⟩
          · exact I.link a b h1 hN
          · have : a = s.tail := by simpa [h1] using I.last
            rw [this, I.tl] at hN; exact absurd hN (by simp)
        · intro _ t' th'' _ h p (heq : th.ot = th''.ot)
          exact adj_not_last I.nodup ((I.ti t' th'' h).pend p).1 (heq ▸ hlast)
        · intro a b hab
          rcases adj_of_snoc hab with h1 | ⟨h1, _⟩
          · exact est_frame (th' := { th with pc := .uLink0 }) hth (fun _ _ h => h)
              (fun p => by simp [Pend, hpc] at p) J.est a b h1
          · exact Or.inr ⟨t, { th with pc := .uLink0 }, by simp [htl], Or.inl rfl, by simpa [h1] using hlast.symm⟩
      · exact cq_local I J hth _ _ (by simp [ownedC, transit, hpc]) (ti_of_pc T.lver (T.fresh (Or.inr hpc)))
          (by simp [Pend, hpc]) (by simp [wt, resv, linking, hpc])
    | uLink0 =>
      simp only [stepTh, hpc, setNext]
      have P := T.pend (Or.inl hpc)
      have hsame : ∀ j, (gs (s.slots.modify th.ot (fun x => { x with next := th.o })) j).hasNext = (gs s.slots j).hasNext := by
        intro j; rw [gs_modify]; split <;> rfl
      refine ⟨assemble I hth _ _ Q rfl (by simp [I.len]) I.head I.last (by simp [ownedC, transit, hpc]) ?_
          (by rw [hsame]; exact I.tl) (others_link I hth P (Or.inl hpc) _)
          (ti_of_pc T.lver ⟨P.1, by rw [hsame]; exact P.2, ?_⟩)
          (fun _ t' th'' hne h p => I.uniq t t' th th'' (Ne.symm hne) hth h (Or.inl hpc) p),
        qsize hth J.size _ s.size Q.length (by simp [wt, resv, linking, hpc]),
        est_frame hth (fun a _ h => by rw [hsame]; exact h) (fun _ => Or.inl ⟨Or.inr rfl, rfl⟩) J.est⟩
      · intro a b hab hN
        rw [hsame] at hN
        rw [gs_modify_ne _ _ _ _ (fun (e : a = th.ot) => by rw [e, P.2] at hN; exact absurd hN (by simp))]
        exact I.link a b hab hN
      · show (gs _ th.ot).next = th.o
        rw [gs_modify_self _ _ _ (I.len ▸ I.mem_lt (adj_mem P.1))]
    | uLink1 =>
      simp only [stepTh, hpc, setHasNext]
      have P := T.pend (Or.inr hpc)
      have hotn : th.ot < s.slots.length := I.len ▸ I.mem_lt (adj_mem P.1)
      refine ⟨assemble I hth _ _ Q rfl (by simp [I.len]) I.head I.last (by simp [ownedC, transit, hpc]) ?_ ?_
          (others_link I hth P (Or.inr hpc) _) (ti_of_pc T.lver trivial) (fun p => by simp [Pend] at p),
        qsize hth J.size _ s.size Q.length (by simp [wt, resv, linking, hpc]),
        est_frame hth ?_ (fun _ => Or.inr (by rw [gs_modify_self _ _ _ hotn])) J.est⟩
      · intro a b hab hN
        by_cases e : a = th.ot
        · subst e
          rw [gs_modify_self _ _ _ hotn]
          exact (T.linked hpc).trans (adj_unique I.nodup P.1 hab)
        · rw [gs_modify_ne _ _ _ _ e] at hN ⊢
          exact I.link a b hab hN
      · rw [gs_modify_ne _ _ _ _ (fun (e : s.tail = th.ot) => adj_not_last I.nodup P.1 (e ▸ I.last))]
        exact I.tl
      · intro a _ h
        rw [gs_modify]; split
        · rfl
        · exact h
    | idle =>
      simp only [stepTh, hpc]
      exact cq_local I J hth _ _ (fun _ => rfl) T (by simp [Pend, hpc]) rfl
    | pLdHead =>
      simp only [stepTh, hpc]
      exact cq_local I J hth _ _ (by simp [ownedC, transit, hpc]) (ti_of_pc (Nat.le_refl _) fun _ => rfl)
        (by simp [Pend, hpc]) (by simp [wt, resv, linking, hpc])
    | pDec =>
      simp only [stepTh, hpc]
      split
      · exact cq_local I J hth _ _ (by simp [ownedC, transit, hpc]) (ti_of_pc T.lver trivial)
          (by simp [Pend, hpc]) (by simp [wt, resv, linking, hpc])
      · exact cq_local I J hth _ _ (by simp [ownedC, transit, hpc]) (ti_of_pc T.lver (T.cur (Or.inl hpc)))
          (by simp [Pend, hpc]) (by simp [wt, resv, linking, hpc])
    | pHasNext =>
      have hcur := T.cur (Or.inr (Or.inl hpc))
      simp only [stepTh, hpc]
      split
      · rename_i hc
        exact cq_local I J hth _ _ (by simp [ownedC, transit, hpc]) (ti_of_pc T.lver fun e => ⟨hcur e, hc⟩)
          (by simp [Pend, hpc]) (by simp [wt, resv, linking, hpc])
      · exact cq_local I J hth _ _ (by simp [ownedC, transit, hpc]) (ti_of_pc T.lver hcur)
          (by simp [Pend, hpc]) (by simp [wt, resv, linking, hpc])
    | pNext =>
      simp only [stepTh, hpc]
      exact cq_local I J hth _ _ (by simp [ownedC, transit, hpc])
        (ti_of_pc T.lver fun e => ⟨T.cur (Or.inr (Or.inr (Or.inl hpc))) e, T.hn (Or.inl hpc) e, rfl⟩)
        (by simp [Pend, hpc]) (by simp [wt, resv, linking, hpc])
    | pClear | pSetUsed =>
      simp only [stepTh, hpc, clearFlag, setInUsed]
      exact cq_modify I J hth (by simp [ownedC, transit, hpc]) _ (by simp [ownedC, transit, hpc])
        (ti_of_pc T.lver trivial) (by simp [Pend, hpc]) (by simp [wt, resv, linking, hpc])
    | pIncFail | pCnt | uDecCnt =>
      simp only [stepTh, hpc]
      exact cq_finish I J hth _ _ _ _ (by simp [ownedC, transit, hpc]) rfl (by simp [Pend, hpc])
        (by simp [wt, resv, linking, hpc])
    | pPlainSize =>
      simp only [stepTh, hpc]
      split <;>
      exact cq_local I J hth _ _ (by simp [ownedC, transit, hpc]) (ti_of_pc T.lver trivial)
          (by simp [Pend, hpc]) (by simp [wt, resv, linking, hpc])
    | pReload =>
      simp only [stepTh, hpc]
      split
      · exact cq_local I J hth _ _ (by simp [ownedC, transit, hpc]) (ti_of_pc (Nat.le_refl _) fun _ => rfl)
          (by simp [Pend, hpc]) (by simp [wt, resv, linking, hpc])
      · exact cq_local I J hth _ _ (by simp [ownedC, transit, hpc]) (ti_of_pc (Nat.le_refl _) trivial)
          (by simp [Pend, hpc]) (by simp [wt, resv, linking, hpc])
    | uReset =>
      simp only [stepTh, hpc, clearFlag]
      have hx : th.o ∈ ownedC th := by simp [ownedC, transit, hpc]
      refine cq_modify I J hth hx _ (by simp [ownedC, transit, hpc]) (ti_of_pc T.lver ?_)
        (by simp [Pend, hpc]) (by simp [wt, resv, linking, hpc])
      show (gs _ th.o).hasNext = false
      rw [gs_modify_self _ _ _ (I.len ▸ (I.owned_not_mem hth hx).2)]
    | uLdTail =>
      simp only [stepTh, hpc]
      exact cq_local I J hth _ _ (by simp [ownedC, transit, hpc]) (ti_of_pc T.lver (T.fresh (Or.inl hpc)))
        (by simp [Pend, hpc]) (by simp [wt, resv, linking, hpc])
    | uIncSize =>
      simp only [stepTh, hpc]
      exact cq_local I J hth _ _ (by simp [ownedC, transit, hpc]) (ti_of_pc T.lver trivial)
        (by simp [Pend, hpc]) (by simp [wt, resv, linking, hpc])

theorem boundary_init {n : Nat} {progs : List (List Op)} {th : Th} (hm : th ∈ (prime (init n progs)).ths) :
    AtBoundary th ∧ th.lver = 0 ∧ ∀ i, (ownedC th).count i = 0 := by
  simp only [prime, init, List.map_map, List.mem_map] at hm
  obtain ⟨p, _, rfl⟩ := hm
  have := startNextAux_spec p { prog := p }
  exact ⟨this.1, this.2.1, fun i => (this.2.2 i).trans (by simp)⟩

theorem chain_init (n : Nat) (hn : 0 < n) (progs : List (List Op)) :
    Chain (prime (init n progs)).slots (List.range' 0 n) := by
  obtain ⟨m, rfl⟩ : ∃ m, n = m + 1 := ⟨n - 1, by omega⟩
  exact chain_initSlots (m + 1) m 0 (by omega)

theorem cinv_init (n : Nat) (hn : 0 < n) (progs : List (List Op)) :
    CInv n (prime (init n progs)) (List.range' 0 n) := by
  have hlast : (List.range' 0 n).getLast? = some (n - 1) := by simp [List.getLast?_range']; omega
  refine ⟨initSlots_length n, by cases n <;> simp_all [prime, init, List.range'], hlast, ?_,
    fun a b hab _ => (chain_link (chain_init n hn progs) hab).2, chain_last (chain_init n hn progs) hlast,
    fun t th h => ti_boundary (boundary_init (List.mem_of_getElem? h)).1
      (by rw [(boundary_init (List.mem_of_getElem? h)).2.1]; exact Nat.zero_le _),
    fun t _ th _ _ h _ p => absurd p (boundary_flags (boundary_init (List.mem_of_getElem? h)).1).2.2⟩
  intro i
  have hzero : ownCnt (prime (init n progs)).ths i = 0 := by
    refine List.sum_eq_zero_iff_forall_eq_nat.mpr fun x hx => ?_
    obtain ⟨th, hth, rfl⟩ := List.mem_map.mp hx
    exact (boundary_init hth).2.2 i
  rw [hzero, List.count_range_1']
  simp

theorem qinv_init (n : Nat) (hn : 0 < n) (progs : List (List Op)) :
    QInv (prime (init n progs)) (List.range' 0 n) := by
  obtain ⟨h1, h2⟩ := boundary_counts fun th hm => (boundary_init (n := n) (progs := progs) hm).1
  exact ⟨by rw [h1, h2]; simp [prime, init], fun a b hab => Or.inl (chain_link (chain_init n hn progs) hab).1⟩

theorem aba_step_mono (s : State) (t : Nat) (h : s.aba = true) : (step s t).1.aba = true := by
  unfold step
  cases hth : s.ths[t]? with
  | none => exact h
  | some th =>
    simp only []
    -- only a successful head CAS writes `aba`, and it only ever sets it
    cases hpc : th.pc <;> simp only [stepTh, hpc] <;> (try split) <;> simp [h]

theorem aba_run_mono (sched : List Nat) : ∀ (s : State), s.aba = true → (run s sched).aba = true :=
  fun _ h => List.foldlRecOn (motive := fun s => s.aba = true) sched _ h fun s hb t _ => aba_step_mono s t hb

theorem run_cq (n : Nat) (sched : List Nat) : ∀ (s : State) (Q : List Nat), CInv n s Q → QInv s Q → (run s sched).aba = false →
    ∃ Q', CInv n (run s sched) Q' ∧ QInv (run s sched) Q' := by
  induction sched with
  | nil => intro s Q I J _; exact ⟨Q, I, J⟩
  | cons t r ih =>
    intro s Q I J ha
    simp only [run, List.foldl_cons] at ha ⊢
    have h1 : (step s t).1.aba = false := Bool.eq_false_iff.mpr fun h => nomatch ha.symm.trans (aba_run_mono r _ h)
    exact ih _ _ (step_cq n s Q t I J h1).1 (step_cq n s Q t I J h1).2 ha

/-- every ABA-free interleaving from the state createFreeBufferList builds -/
theorem reach_cq (n : Nat) (hn : 0 < n) (progs : List (List Op)) (sched : List Nat)
    (ha : (run (prime (init n progs)) sched).aba = false) :
    ∃ Q, CInv n (run (prime (init n progs)) sched) Q ∧ QInv (run (prime (init n progs)) sched) Q :=
  run_cq n sched _ _ (cinv_init n hn progs) (qinv_init n hn progs) ha

/-- with every thread between two operations no link is pending and nobody holds a reservation:
    the ghost queue is the free chain and `size` is its length -/
theorem cq_boundary {n : Nat} {s : State} {Q : List Nat} (I : CInv n s Q) (J : QInv s Q)
    (hb : ∀ th ∈ s.ths, AtBoundary th) : Chain s.slots Q ∧ s.size = (Q.length : Int) := by
  constructor
  · apply chain_of_links I.last _ I.tl
    intro a b hab
    rcases J.est a b hab with h | ⟨t0, th0, h0, p0, _⟩
    · exact ⟨h, I.link a b hab h⟩
    · exact absurd p0 (boundary_flags (hb th0 (List.mem_of_getElem? h0))).2.2
  · have := J.size
    rw [(boundary_counts hb).1, (boundary_counts hb).2] at this
    simpa using this

/-- quiescence: nobody is inside pop or push -/
def Quiet (s : State) : Prop := ∀ th ∈ s.ths, th.pc = .idle

theorem quiet_chain {n : Nat} {s : State} {Q : List Nat} (I : CInv n s Q) (J : QInv s Q) (hq : Quiet s) :
    Chain s.slots Q ∧ s.size = (Q.length : Int) ∧ (Q ++ s.ths.flatMap (·.held)).Perm (List.range n) := by
  have B := cq_boundary I J fun th hm => Or.inl (hq th hm)
  refine ⟨B.1, B.2, ?_⟩
  have e : s.ths.flatMap ownedC = s.ths.flatMap (·.held) := by
    rw [List.flatMap_def, List.flatMap_def,
      List.map_congr_left (f := ownedC) (g := (·.held)) fun th hm => by simp [ownedC, transit, hq th hm]]
  exact e ▸ I.partition

end FreeListC

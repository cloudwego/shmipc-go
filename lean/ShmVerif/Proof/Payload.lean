import ShmVerif.Proof.SlotSys
/-! Who can write a payload byte: only the end that holds the slot in its send buffer, or whoever pops it from a free list. -/
namespace LB
open List

variable {N : Nat}

theorem PSys.put_m (s : PSys) (x : Bool) (m' : Mem) (st : StreamM) : (s.put x m' st).m = m' := by cases x <;> rfl

/-- **Nobody else writes.** Whatever operation either end performs, the payload of a slot changes only if the slot was
    free (and has just been allocated by a writer) or sits in the send buffer of the end that performs a writer call. -/
theorem pstep_payload {s s' : PSys} {op : POp} (h : PInv N s) (e : pstep s op = some s') (p : Nat)
    (hf : p ∉ s.m.free.flatten) (ha : p ∉ heldL s.a.send) (hb : p ∉ heldL s.b.send) :
    (s'.m.slot p).data = (s.m.slot p).data := by
  have hsend : ∀ x : Bool, p ∉ heldS (s.get x).send.sl := fun x hx => by
    cases x
    · exact ha (mem_append_left _ hx)
    · exact hb (mem_append_left _ hx)
  cases op with
  | write x d =>
    obtain ⟨hx, _, _⟩ := h.side x
    obtain ⟨m1, l1, e1, _, _, _, _, f1⟩ := writeBytes_spec s.m (s.get x).send d hx.wf hx.x.wbuf
    simp only [pstep, e1, Option.some.injEq] at e
    subst e; rw [PSys.put_m]
    exact f1.data p (hsend x) hf
  | writeByte x b =>
    obtain ⟨hx, _, _⟩ := h.side x
    obtain ⟨m1, l1, e1, _, _, _, _, f1⟩ := writeByte_spec s.m (s.get x).send b hx.wf hx.x.wbuf
    simp only [pstep, e1, Option.some.injEq] at e
    subst e; rw [PSys.put_m]
    exact f1.data p (hsend x) hf
  | flush x =>
    obtain ⟨hx, _, _⟩ := h.side x
    simp only [pstep] at e
    split at e <;> cases e
    rw [PSys.put_m]
    -- `done` writes headers only, the fall-back transport recycles
    rcases flush_cases hx.x.wbuf ‹_› with ⟨_, e⟩ | ⟨m1, hd, e | ⟨_, _, _, _, _, _, _, _, _, _, e⟩⟩ <;> rw [e]
    all_goals have hdata := (done_facts _ _ m1 _ hx.x.wbuf hd).2.2.1
    · exact (lrecycle_data m1 _ p).trans (hdata p)
    · exact hdata p
  | more x =>
    obtain ⟨X', e1, _⟩ := (h.side x).1.moreStep
    simp only [pstep, e1, Option.some.injEq] at e
    subst e; rw [PSys.put_m]
  | readBytes x n | peek x n | discard x n | readByte x | readString x n | readInto x n | release x =>
    obtain ⟨hx, _, _⟩ := h.side x
    obtain ⟨m', r', rfl, a⟩ := pstep_recv e
    rw [PSys.put_m]; exact (a hx.shape hx.x.recv).data p
  | close x =>
    cases e
    rw [PSys.put_m]; exact closeStream_data _ _ p

end LB

import ShmVerif.Proof.Mux
/-!
  The invariant of the message-level protocol model, one direction `x` and one stream id `j` at a time: the stream is one
  FIFO across the shared queue and the control connection, its close notification being the last element (`Str`, on the
  `View` that `x` and `j` have of the system); what an operation leaves alone (`SendFrame`, `RecvFrame`); `Inv` holds on
  every run (`run_inv`).  `Proof/MuxEos` reads the invariant back in terms of `qdata`, `kdata`, `afterCloseQ`, ….
-/
namespace Mux
open List

/-- everything `x` issued on stream `j`: the flushed messages, then the close notification -/
def issued (x : Side) (j : Nat) (sent : List (Side × Nat × Nat)) (closeSent : List (Side × Nat)) : List (Option Nat) :=
  (tagOf x j sent).map some ++ if (x, j) ∈ closeSent then [none] else []

theorem mem_issued_none {x : Side} {j : Nat} {sent : List (Side × Nat × Nat)} {cs : List (Side × Nat)} :
    none ∈ issued x j sent cs ↔ (x, j) ∈ cs := by
  unfold issued; split <;> simp [*]

theorem issued_flush (x : Side) (i j m : Nat) (sent : List (Side × Nat × Nat)) (cs : List (Side × Nat))
    (h : i = j → (x, j) ∉ cs) : issued x j (sent ++ [(x, i, m)]) cs = issued x j sent cs ++ ((Ev.fb i m).item j).toList := by
  unfold issued Ev.item
  by_cases hij : i = j
  · subst hij; rw [tagOf_snoc_same, if_neg (h rfl)]; simp
  · rw [tagOf_snoc_other _ _ _ _ _ _ (Or.inr hij)]; simp [hij]

theorem issued_close (x : Side) (i j : Nat) (sent : List (Side × Nat × Nat)) (cs : List (Side × Nat))
    (h : i = j → (x, j) ∉ cs) : issued x j sent (cs ++ [(x, i)]) = issued x j sent cs ++ ((Ev.close i).item j).toList := by
  unfold issued Ev.item
  by_cases hij : i = j
  · subst hij; simp [h rfl]
  · simp [hij, Ne.symm hij]

/-- what direction `x` and stream id `j` see of the system: `x`'s channel, `x`'s stream object `j`, what of `j` has arrived
    at the peer, what `x` has issued on `j` -/
structure View where
  c : Chan
  o : Option MStream
  arr : List Nat
  iss : List (Option Nat)

def view (s : Sys) (x : Side) (j : Nat) : View :=
  ⟨s.ch x, (s.me x).find j, tagOf x.peer j s.arrived, issued x j s.sent s.closeSent⟩

@[simp] theorem view_o (s : Sys) (x : Side) (j : Nat) : (view s x j).o = (s.me x).find j := rfl

/-- The invariant of one stream in one direction.  Something of `j` on the connection: the sender's stream object is in
    fall-back state or no longer open (`fb`); the close notification was issued: it is no longer open (`shut`). -/
structure Str (j : Nat) (v : View) : Prop where
  fb : kItems j v.c.k ≠ [] → ∃ st, v.o = some st ∧ (st.inFb = true ∨ st.state ≠ .opened)
  shut : none ∈ v.iss → ∃ st, v.o = some st ∧ st.state ≠ .opened
  poll : qItems j v.c.q ≠ [] → kItems j (beforePoll v.c.k) = []
  /-- The stream is ONE fifo across the two channels, close notification included: what the peer has taken (`pre`; its data
      are the arrivals), then the queue, then the connection, is what was issued.  Order, isolation, "nothing behind the
      close notification" and "the notification never overtakes data" are all read off this equation; `poll` adds that the
      peer will indeed take the queue before anything of `j` on the connection. -/
  fifo : ∃ pre, pre.filterMap id = v.arr ∧ pre ++ qItems j v.c.q ++ kItems j v.c.k = v.iss

section
variable {j : Nat} {v v' : View}

theorem Str.quiet (h : Str j v) {st : MStream} (ho : v.o = some st) (hop : st.state = .opened)
    (hfb : st.inFb = false) : kItems j v.c.k = [] := by
  refine Decidable.byContradiction fun hk => ?_
  obtain ⟨st', e, hh⟩ := h.fb hk
  rw [ho] at e; cases e
  rcases hh with hh | hh
  · rw [hfb] at hh; cases hh
  · exact hh hop

theorem Str.not_closed (h : Str j v) {st : MStream} (ho : v.o = some st) (hop : st.state = .opened) : none ∉ v.iss := by
  intro hn
  obtain ⟨st', e, hne⟩ := h.shut hn
  rw [ho] at e; cases e
  exact hne hop

theorem Str.not_closeSent {s : Sys} {x : Side} {i : Nat} {st : MStream} (h : Str j (view s x j))
    (hst : (s.me x).find i = some st) (hop : st.state = .opened) : i = j → (x, j) ∉ s.closeSent :=
  fun e => mt mem_issued_none.mpr (h.not_closed (e ▸ hst) hop)

theorem Str.keep (h : Str j v) (hc : v'.c = v.c) (ha : v'.arr = v.arr) (hi : v'.iss = v.iss) (ho : Keeps v.o v'.o) : Str j v' := by
  refine ⟨?_, ?_, ?_, ?_⟩
  · rw [hc]; intro hk; obtain ⟨st, e, q⟩ := h.fb hk; obtain ⟨st', e', a, b⟩ := ho st e; exact ⟨st', e', q.imp a b⟩
  · rw [hi]; intro hn; obtain ⟨st, e, q⟩ := h.shut hn; obtain ⟨st', e', _, b⟩ := ho st e; exact ⟨st', e', b q⟩
  · rw [hc]; exact h.poll
  · rw [hc, ha, hi]; exact h.fifo

theorem Str.emit (h : Str j v) (hc : ChanOK v.c) (ev : Ev) (hk : v'.c = { v.c with k := v.c.k ++ [ev] }) (ha : v'.arr = v.arr)
    (hi : v'.iss = v.iss ++ (ev.item j).toList) (ho : Keeps v.o v'.o)
    (hown : ∀ it, ev.item j = some it →
      ∃ st, v'.o = some st ∧ (st.inFb = true ∨ st.state ≠ .opened) ∧ (it = none → st.state ≠ .opened)) : Str j v' := by
  have hkeep := h.keep (v' := ⟨v.c, v'.o, v.arr, v.iss⟩) rfl rfl rfl ho
  refine ⟨?_, ?_, ?_, ?_⟩
  · rw [hk, kItems_append, kItems_single]; intro hne
    cases hit : ev.item j with
    | none => rw [hit, Option.toList_none, append_nil] at hne; exact hkeep.fb hne
    | some it => obtain ⟨st, e, a, _⟩ := hown it hit; exact ⟨st, e, a⟩
  · rw [hi, mem_append]
    rintro (hn | hn)
    · exact hkeep.shut hn
    · obtain ⟨st, e, _, b⟩ := hown none (by simpa [Option.mem_toList, eq_comm] using hn); exact ⟨st, e, b rfl⟩
  · rw [hk]; intro hq
    -- something in the queue: the polling event is there already, the new event is behind it
    have hp : Ev.polling ∈ v.c.k := hc.poll (hc.flag fun e => hq (by rw [e]; rfl))
    rw [kItems_beforePoll_snoc, if_pos hp, append_nil]
    exact h.poll hq
  · obtain ⟨pre, h1, h2⟩ := h.fifo
    exact ⟨pre, by rw [ha, h1], by rw [hk, hi, ← h2, kItems_append, kItems_single]; simp only [append_assoc]⟩

/-- One element is put into the queue and the peer is woken.  `hown`: for an element of `j` itself the connection must hold
    nothing of `j`, else the new element, taken with the queue, would overtake it and `pre ++ q ++ k` would no longer be
    the order of issue.  The callers have it from `Str.quiet`: only an open stream outside fall-back state uses the queue. -/
theorem Str.enq (h : Str j v) (hc : ChanOK v.c) (el : QEl) (hq : v'.c = ({ v.c with q := v.c.q ++ [el] } : Chan).wake)
    (ha : v'.arr = v.arr) (hi : v'.iss = v.iss ++ (el.ev.item j).toList) (ho : Keeps v.o v'.o)
    (hown : ∀ it, el.ev.item j = some it →
      kItems j v.c.k = [] ∧ (it = none → ∃ st, v'.o = some st ∧ st.state ≠ .opened)) : Str j v' := by
  have hkeep := h.keep (v' := ⟨v.c, v'.o, v.arr, v.iss⟩) rfl rfl rfl ho
  have hqI : qItems j v'.c.q = qItems j v.c.q ++ (el.ev.item j).toList := by rw [hq, wake_q, qItems_snoc]
  have hkI : kItems j v'.c.k = kItems j v.c.k := by rw [hq, kItems_wake]
  refine ⟨?_, ?_, ?_, ?_⟩
  · rw [hkI]; exact hkeep.fb
  · rw [hi, mem_append]
    rintro (hn | hn)
    · exact hkeep.shut hn
    · exact (hown none (by simpa [Option.mem_toList, eq_comm] using hn)).2 rfl
  · rw [hqI]; intro hne
    cases hit : el.ev.item j with
    | none =>
      -- an element of another stream behind elements of `j`: the flag is set, nothing is written on the connection
      rw [hit, Option.toList_none, append_nil] at hne
      rw [hq, wake_of_flag (c := { v.c with q := v.c.q ++ [el] }) (hc.flag fun e => hne (by rw [e]; rfl))]
      exact h.poll hne
    | some it => exact kItems_beforePoll_nil (by rw [hkI]; exact (hown it hit).1)
  · obtain ⟨pre, h1, h2⟩ := h.fifo
    refine ⟨pre, by rw [ha, h1], ?_⟩
    rw [hqI, hkI, hi, ← h2]
    cases hit : el.ev.item j with
    | none => simp
    | some it => rw [(hown it hit).1]; simp

theorem Str.pop (h : Str j v) {ev : Ev} {rest : List Ev} (hk : v.c.k = ev :: rest) (hev : ev ≠ .polling)
    (hc' : v'.c = { v.c with k := rest }) (ho : v'.o = v.o) (hi : v'.iss = v.iss)
    (ha : v'.arr = v.arr ++ (ev.item j).toList.filterMap id) : Str j v' := by
  have hkI : kItems j v.c.k = (ev.item j).toList ++ kItems j rest := by rw [hk, kItems_cons]
  have hb : beforePoll v.c.k = ev :: beforePoll rest := by rw [hk, beforePoll_cons, if_neg hev]
  -- with something of `j` in the queue, neither the event taken nor those up to the next polling event are of `j`
  have hp : qItems j v.c.q ≠ [] → (ev.item j).toList = [] ∧ kItems j (beforePoll rest) = [] := fun hq =>
    append_eq_nil_iff.mp (by have := h.poll hq; rwa [hb, kItems_cons] at this)
  refine ⟨?_, ?_, ?_, ?_⟩
  · rw [hc', ho]; exact fun hne => h.fb fun e => hne (by rw [hkI] at e; exact (append_eq_nil_iff.mp e).2)
  · rw [hi, ho]; exact h.shut
  · rw [hc']; exact fun hq => (hp hq).2
  · obtain ⟨pre, h1, h2⟩ := h.fifo
    refine ⟨pre ++ (ev.item j).toList, by rw [filterMap_append, h1, ha], ?_⟩
    rw [hc', hi, ← h2, hkI]
    by_cases hq : qItems j v.c.q = []
    · simp [hq]
    · simp [(hp hq).1]

theorem Str.drain (h : Str j v) {rest : List Ev} (hk : v.c.k = .polling :: rest)
    (hc' : v'.c = { q := [], flag := false, k := rest }) (ho : v'.o = v.o) (hi : v'.iss = v.iss)
    (ha : v'.arr = v.arr ++ qdata j v.c.q) : Str j v' := by
  have hkI : kItems j v.c.k = kItems j rest := by rw [hk, kItems_cons]; rfl
  refine ⟨?_, ?_, ?_, ?_⟩
  · rw [hc', ho, ← hkI]; exact h.fb
  · rw [hi, ho]; exact h.shut
  · rw [hc']; exact fun hq => absurd rfl hq
  · obtain ⟨pre, h1, h2⟩ := h.fifo
    exact ⟨pre ++ qItems j v.c.q, by rw [filterMap_append, h1, qItems_data, ha], by rw [hc', hi, ← h2, hkI]; simp [qItems, kItems]⟩

end

/-- an operation of end `z` leaves the direction of its peer alone -/
structure SendFrame (s s' : Sys) (z : Side) : Prop where
  me : ∀ y, y ≠ z → s'.me y = s.me y
  ch : ∀ y, y ≠ z → s'.ch y = s.ch y
  arrived : s'.arrived = s.arrived
  recreated : s'.recreated = s.recreated
  sent : ∀ y j, y ≠ z → tagOf y j s'.sent = tagOf y j s.sent
  closeSent : ∀ y j, y ≠ z → ((y, j) ∈ s'.closeSent ↔ (y, j) ∈ s.closeSent)

theorem SendFrame.refl (s : Sys) (z : Side) : SendFrame s s z :=
  ⟨fun _ _ => rfl, fun _ _ => rfl, rfl, rfl, fun _ _ _ => rfl, fun _ _ _ => Iff.rfl⟩

theorem SendFrame.setMe {s g : Sys} {z : Side} (f : SendFrame s g z) (e : MEnd) : SendFrame s (g.setMe z e) z :=
  ⟨fun y hy => (setMe_me_other _ _ _ _ hy).trans (f.me y hy), f.ch, f.arrived, f.recreated, f.sent, f.closeSent⟩

theorem SendFrame.setCh {s g : Sys} {z : Side} (f : SendFrame s g z) (c : Chan) : SendFrame s (g.setCh z c) z :=
  ⟨f.me, fun y hy => (setCh_ch_other _ _ _ _ hy).trans (f.ch y hy), f.arrived, f.recreated, f.sent, f.closeSent⟩

theorem flush_frame (s : Sys) (z : Side) (i : Nat) (heap : Bool) : SendFrame s (flush s z i heap).1 z := by
  have hs : SendFrame s { s with fresh := s.fresh + 1, sent := s.sent ++ [(z, i, s.fresh)] } z :=
    ⟨fun _ _ => rfl, fun _ _ => rfl, rfl, rfl, fun y j hy => tagOf_snoc_other _ _ _ _ _ _ (Or.inl (Ne.symm hy)), fun _ _ _ => Iff.rfl⟩
  refine flush_cases s z i heap (P := fun r => SendFrame s r.1 z) ?_ ?_ ?_ ?_
  · exact fun _ => .refl s z
  · exact fun _ _ _ _ => ⟨fun _ _ => rfl, fun _ _ => rfl, rfl, rfl, fun _ _ _ => rfl, fun _ _ _ => Iff.rfl⟩
  · exact fun _ _ _ => (hs.setMe _).setCh _
  · exact fun _ _ _ _ => hs.setCh _

theorem closeStream_frame (s : Sys) (z : Side) (i : Nat) : SendFrame s (closeStream s z i).1 z := by
  have hs : ∀ l, SendFrame s { s with retired := s.retired ++ l, closeSent := s.closeSent ++ [(z, i)] } z := fun l =>
    ⟨fun _ _ => rfl, fun _ _ => rfl, rfl, rfl, fun _ _ _ => rfl, fun y j hy => by simp [hy]⟩
  refine closeStream_cases s z i (P := fun r => SendFrame s r.1 z) ?_ ?_ ?_ ?_ ?_
  · exact fun _ => .refl s z
  · exact fun _ _ _ => .refl s z
  · exact fun st _ _ _ => SendFrame.setMe (s := s) (g := { s with retired := s.retired ++ st.buffered })
      ⟨fun _ _ => rfl, fun _ _ => rfl, rfl, rfl, fun _ _ _ => rfl, fun _ _ _ => Iff.rfl⟩ _
  · exact fun _ _ _ => ((hs _).setMe _).setCh _
  · exact fun _ _ _ _ => ((hs _).setMe _).setCh _

/-- end `y` handles what it took from its peer's channel; `l` are the arrivals it records.  Of its own stream objects each
    stays in the sense of `Keeps`, or is one the server re-created (and flagged as such). -/
structure RecvFrame (s s' : Sys) (y : Side) (l : List (Side × Nat × Nat)) : Prop where
  ch : s'.ch = s.ch
  sent : s'.sent = s.sent
  closeSent : s'.closeSent = s.closeSent
  arrived : s'.arrived = s.arrived ++ l
  tag : ∀ t ∈ l, t.1 = y
  other : ∀ x, x ≠ y → s'.me x = s.me x
  recMono : ∀ p, p ∈ s.recreated → p ∈ s'.recreated
  /-- what `y` does to its own stream object `j`: nothing that the invariant of direction `y` notices (`Keeps`), or it is
      the server making a new object for a closed id, which `recreated` then records: the guard of `Inv.str` fails -/
  eff : ∀ j, Keeps ((s.me y).find j) ((s'.me y).find j) ∨ (y, j) ∈ s'.recreated

theorem RecvFrame.refl (s : Sys) (y : Side) : RecvFrame s s y [] :=
  ⟨rfl, rfl, rfl, (append_nil _).symm, (fun _ h => nomatch h), fun _ _ => rfl, fun _ h => h, fun _ => Or.inl (Keeps.refl _)⟩

theorem RecvFrame.trans {s1 s2 s3 : Sys} {y : Side} {l1 l2 : List (Side × Nat × Nat)} (h12 : RecvFrame s1 s2 y l1)
    (h23 : RecvFrame s2 s3 y l2) : RecvFrame s1 s3 y (l1 ++ l2) := by
  refine ⟨h23.ch.trans h12.ch, h23.sent.trans h12.sent, h23.closeSent.trans h12.closeSent,
    by rw [h23.arrived, h12.arrived, append_assoc], fun t ht => (mem_append.mp ht).elim (h12.tag t) (h23.tag t),
    fun x hx => (h23.other x hx).trans (h12.other x hx),
    fun p hp => h23.recMono p (h12.recMono p hp), fun j => ?_⟩
  rcases h12.eff j with h | h
  · exact (h23.eff j).imp_left h.trans
  · exact Or.inr (h23.recMono _ h)

theorem closeNote_frame (s : Sys) (y : Side) (i : Nat) : RecvFrame s (closeNote s y i) y [] := by
  unfold closeNote
  split
  · refine ⟨rfl, rfl, rfl, (append_nil _).symm, (fun _ h => nomatch h), fun x hx => setMe_me_other s y x _ hx,
      fun _ h => h, fun j => Or.inl ?_⟩
    rw [setMe_me_same]
    exact keeps_upd _ _ _ _ halfClose_id (fun y h => by rw [halfClose_inFb]; exact h) fun y _ => halfClose_notOpen y
  · exact .refl s y

theorem offer_frame (s : Sys) (y : Side) (i m : Nat) (v : Bool) : RecvFrame s (offer s y i m v) y [(y, i, m)] := by
  have hrec : ∀ p, p ∈ s.recreated → p ∈ (if recreates (s.me y) i = true then s.recreated ++ [(y, i)] else s.recreated) := by
    intro p hp; split
    · exact mem_append_left _ hp
    · exact hp
  -- both outcomes leave the end `getStream` returns, one with the message appended to a buffer
  have key : ∀ (g : Sys) (e : MEnd), g.ends = s.ends → g.ch = s.ch → g.sent = s.sent → g.closeSent = s.closeSent →
      g.arrived = s.arrived ++ [(y, i, m)] →
      g.recreated = (if recreates (s.me y) i = true then s.recreated ++ [(y, i)] else s.recreated) →
      (∀ j, Keeps ((getStream (s.me y) i true).1.find j) (e.find j)) → RecvFrame s (g.setMe y e) y [(y, i, m)] := by
    intro g e he hc hs hcs ha hr hk
    refine ⟨hc, hs, hcs, ha, fun t ht => by rw [mem_singleton.mp ht], ?_, hr ▸ hrec, fun j => ?_⟩
    · intro x hx; rw [setMe_me_other _ _ _ _ hx, Sys.me, he]; rfl
    · rw [setMe_me_same, setMe_recreated, hr]
      rcases getStream_keeps_or (s.me y) i j true with h | ⟨rfl, h⟩
      · exact Or.inl (h.trans (hk j))
      · exact Or.inr (by simp [h])
  refine offer_cases s y i m v (P := fun s' => RecvFrame s s' y [(y, i, m)]) ?_ ?_
  · exact key _ _ rfl rfl rfl rfl rfl rfl fun _ => Keeps.refl _
  · exact fun st _ _ _ => key _ _ rfl rfl rfl rfl rfl rfl fun j => keeps_upd _ _ j _ (fun _ => rfl) (fun _ h => h) (fun _ h => h)

theorem drain_frame : ∀ (q : List QEl) (s : Sys) (y : Side), RecvFrame s (drain q s y) y (dataItems y q) := by
  intro q
  induction q with
  | nil => intro s y; exact .refl s y
  | cons el r ih =>
    intro s y
    unfold drain
    cases hc : el.isClose with
    | true =>
      simpa [dataItems, hc] using (closeNote_frame s y el.sid).trans (ih (closeNote s y el.sid) y)
    | false =>
      simpa [dataItems, hc] using (offer_frame s y el.sid el.msg false).trans (ih (offer s y el.sid el.msg) y)

structure Inv (s : Sys) (x : Side) (j : Nat) : Prop where
  /-- says nothing about `j`; it sits here because the moves of `Str` need it and so that one induction (`run_inv`) proves
      both.  Who wants only this part instantiates any `j`. -/
  chan : ChanOK (s.ch x)
  /-- the guard: `x` (as receiver of the other direction) has not replaced its stream object `j` by a new one -/
  str : (x, j) ∉ s.recreated → Str j (view s x j)

section
variable {s s' : Sys} {x : Side} {j : Nat}

theorem Inv.other {z : Side} (h : Inv s x j) (f : SendFrame s s' z) (hx : x ≠ z) : Inv s' x j := by
  have e : view s' x j = view s x j := by
    simp only [view, issued, f.me x hx, f.ch x hx, f.arrived, f.sent x j hx, f.closeSent x j hx]
  exact ⟨by rw [f.ch x hx]; exact h.chan, by rw [f.recreated, e]; exact h.str⟩

theorem Inv.ghost (h : Inv s x j) (hc : s'.ch x = s.ch x) (hr : s'.recreated = s.recreated)
    (hv : view s' x j = view s x j) : Inv s' x j :=
  ⟨by rw [hc]; exact h.chan, by rw [hr, hv]; exact h.str⟩

theorem Inv.setMe (h : Inv s x j) (z : Side) (e : MEnd) (hk : Keeps ((s.me z).find j) (e.find j)) : Inv (s.setMe z e) x j := by
  by_cases hz : x = z
  · subst hz
    exact ⟨h.chan, fun hr => (h.str hr).keep rfl rfl rfl (by rw [view_o, view_o, setMe_me_same]; exact hk)⟩
  · exact h.other ((SendFrame.refl s z).setMe e) hz

theorem Inv.recv_self {l : List (Side × Nat × Nat)} (h : Inv s x j) (f : RecvFrame s s' x l) : Inv s' x j := by
  refine ⟨by rw [f.ch]; exact h.chan, fun hr' => ?_⟩
  refine (h.str fun hh => hr' (f.recMono _ hh)).keep (congrFun f.ch x) ?_ (by rw [view, f.sent, f.closeSent]; rfl)
    ((f.eff j).resolve_right hr')
  show tagOf x.peer j s'.arrived = _
  rw [f.arrived, tagOf_append, tagOf_nil_of_side j f.tag (peer_ne x), append_nil]; rfl

/-- the peer `y` of `x` took the head of `x`'s connection (leaving channel `c`) and handled it: of direction `x` that
    changes the channel and the arrivals only -/
theorem Inv.taken {y : Side} {c : Chan} {l : List (Side × Nat × Nat)} (hxy : x ≠ y) (f : RecvFrame (s.setCh x c) s' y l)
    (hc : ChanOK c)
    (hv : (x, j) ∉ s.recreated →
      Str j ⟨c, (s.me x).find j, tagOf x.peer j s.arrived ++ tagOf x.peer j l, issued x j s.sent s.closeSent⟩) :
    Inv s' x j := by
  refine ⟨by rw [f.ch, setCh_ch_same]; exact hc, fun hr' => ?_⟩
  rw [view, f.ch, setCh_ch_same, f.other x hxy, setCh_me, f.arrived, setCh_arrived, tagOf_append, f.sent, f.closeSent]
  exact hv fun hh => hr' (f.recMono _ hh)

theorem flush_inv (s : Sys) (z : Side) (i : Nat) (heap : Bool) (x : Side) (j : Nat) (h : Inv s x j) :
    Inv (flush s z i heap).1 x j := by
  by_cases hz : x = z
  · subst hz
    refine flush_cases s x i heap (P := fun r => Inv r.1 x j) (fun _ => h) (fun _ _ _ _ => h.ghost rfl rfl rfl) ?_ ?_
    · intro st hst hop
      refine ⟨?_, fun hr => ?_⟩
      · rw [setCh_ch_same]; exact h.chan.emit _
      · have hv := h.str hr
        refine hv.emit h.chan (.fb i s.fresh) (setCh_ch_same ..) rfl (issued_flush x i j _ _ _ (hv.not_closeSent hst hop)) ?_ ?_
        · rw [view_o, view_o, setCh_me, setMe_me_same]
          exact keeps_upd _ _ _ _ (fun _ => rfl) (fun _ _ => rfl) (fun _ h => h)
        · intro it hit
          obtain ⟨rfl, rfl⟩ := item_fb_eq.mp hit
          rw [view_o, setCh_me, setMe_me_same]
          exact ⟨_, find_upd_same _ (fun _ => rfl) hst, Or.inl rfl, fun e => nomatch e⟩
    · intro st hst hop hfb
      refine ⟨?_, fun hr => ?_⟩
      · rw [setCh_ch_same]; exact ChanOK.wake h.chan.poll
      · have hv := h.str hr
        refine hv.enq h.chan ⟨i, s.fresh, false⟩ (setCh_ch_same ..) rfl (issued_flush x i j _ _ _ (hv.not_closeSent hst hop)) (Keeps.refl _) ?_
        intro it hit
        obtain ⟨rfl, rfl⟩ := item_fb_eq.mp hit
        exact ⟨hv.quiet hst hop hfb, fun e => nomatch e⟩
  · exact h.other (flush_frame s z i heap) hz

theorem closeStream_inv (s : Sys) (z : Side) (i : Nat) (x : Side) (j : Nat) (h : Inv s x j) :
    Inv (closeStream s z i).1 x j := by
  by_cases hz : x = z
  · subst hz
    refine closeStream_cases s x i (P := fun r => Inv r.1 x j) (fun _ => h) (fun _ _ _ => h) ?_ ?_ ?_
    · intro st hst _ _
      exact Inv.setMe (s := { s with retired := s.retired ++ st.buffered }) (h.ghost rfl rfl rfl) x _ (keeps_closedEnd _ _ _)
    · intro st hst hop
      refine ⟨?_, fun hr => ?_⟩
      · rw [setCh_ch_same]; exact h.chan.emit _
      · have hv := h.str hr
        refine hv.emit h.chan (.close i) (setCh_ch_same ..) rfl (issued_close x i j _ _ (hv.not_closeSent hst hop)) ?_ ?_
        · rw [view_o, view_o, setCh_me, setMe_me_same]; exact keeps_closedEnd _ _ _
        · intro it hit
          obtain ⟨rfl, rfl⟩ := item_close_eq.mp hit
          rw [view_o, setCh_me, setMe_me_same]
          exact ⟨_, find_closedEnd hst, Or.inr (by simp), fun _ => by simp⟩
    · intro st hst hop hfb
      refine ⟨?_, fun hr => ?_⟩
      · rw [setCh_ch_same]; exact ChanOK.wake h.chan.poll
      · have hv := h.str hr
        refine hv.enq h.chan ⟨i, 0, true⟩ (setCh_ch_same ..) rfl (issued_close x i j _ _ (hv.not_closeSent hst hop)) ?_ ?_
        · rw [view_o, view_o, setCh_me, setMe_me_same]; exact keeps_closedEnd _ _ _
        · intro it hit
          obtain ⟨rfl, rfl⟩ := item_close_eq.mp hit
          rw [view_o, setCh_me, setMe_me_same]
          exact ⟨hv.quiet hst hop hfb, fun _ => ⟨_, find_closedEnd hst, by simp⟩⟩
  · exact h.other (closeStream_frame s z i) hz

theorem deliver_inv (s : Sys) (y : Side) (x : Side) (j : Nat) (h : Inv s x j) : Inv (deliver s y).1 x j := by
  rcases eq_or_peer y x with hx | hx
  · -- `x` receives what its peer wrote
    subst hx
    have h0 : ∀ c : Chan, Inv (s.setCh x.peer c) x j := fun c => h.other ((SendFrame.refl s x.peer).setCh c) fun e => peer_ne x e.symm
    refine deliver_cases s x (P := fun s' => Inv s' x j) h ?_ ?_ ?_
    · exact fun rest _ => (h0 _).recv_self (drain_frame ..)
    · exact fun i rest _ => (h0 _).recv_self (closeNote_frame ..)
    · exact fun i m rest _ => (h0 _).recv_self (offer_frame ..)
  · -- `x`'s own channel is consumed by its peer
    obtain rfl : x.peer = y := by rw [hx]; exact peer_peer y
    have hxy : x ≠ x.peer := fun e => peer_ne x e.symm
    refine deliver_cases s x.peer (P := fun s' => Inv s' x j) h ?_ ?_ ?_ <;> rw [← hx]
    · intro rest hk
      refine Inv.taken hxy (drain_frame ..) ⟨fun hf => Bool.noConfusion hf, fun hq => absurd rfl hq⟩ fun hr => ?_
      exact (h.str hr).drain hk rfl rfl rfl (by rw [tagOf_dataItems]; rfl)
    · intro i rest hk
      refine Inv.taken hxy (closeNote_frame ..) (h.chan.pop hk (by simp)) fun hr => ?_
      refine (h.str hr).pop hk (by simp) rfl rfl rfl ?_
      show _ ++ [] = _ ++ filterMap id (if i = j then some none else none).toList
      split <;> rfl
    · intro i m rest hk
      refine Inv.taken hxy (offer_frame ..) (h.chan.pop hk (by simp)) fun hr => ?_
      refine (h.str hr).pop hk (by simp) rfl rfl rfl ?_
      show _ ++ tagOf x.peer j [(x.peer, i, m)] = _ ++ filterMap id (if i = j then some (some m) else none).toList
      rw [tagOf_single]
      by_cases hij : i = j <;> simp [hij, view]

theorem openStream_inv (s : Sys) (z : Side) (x : Side) (j : Nat) (h : Inv s x j) : Inv (openStream s z).1 x j := by
  rw [openStream_eq]
  split
  · exact h.setMe z _ (Keeps.refl _)
  · refine h.setMe z _ fun st hst => ⟨st, ?_, id, id⟩
    exact (find_append_new (s.me z) _ j).trans (by rw [hst]; rfl)

theorem moved_inv (s : Sys) (z : Side) (i : Nat) (x : Side) (j : Nat) (h : Inv s x j) : Inv (moved s z i) x j :=
  h.setMe z _ (keeps_upd _ _ _ _ (fun _ => rfl) (fun y hy => by simp [hy]) (fun _ hy => hy))

theorem consume_inv (s : Sys) (z : Side) (i : Nat) (x : Side) (j : Nat) (h : Inv s x j) : Inv (consume s z i) x j := by
  unfold consume
  cases (s.me z).find i with
  | none => exact h
  | some st =>
    exact Inv.setMe (s := { s with retired := s.retired ++ st.buffered }) (h.ghost rfl rfl rfl) z _
      (keeps_upd _ _ _ _ (fun _ => rfl) (fun _ hy => hy) (fun _ hy => hy))

theorem inv_init (qcap : Nat) (x : Side) (j : Nat) : Inv ({ qcap := qcap } : Sys) x j :=
  ⟨⟨fun h => Bool.noConfusion h, fun h => absurd rfl h⟩, fun _ =>
    ⟨fun h => absurd rfl h, (fun h => nomatch h), fun h => absurd rfl h, [], rfl, rfl⟩⟩

theorem step_inv (s : Sys) (op : Op) (x : Side) (j : Nat) (h : Inv s x j) : Inv (step s op) x j := by
  cases op with
  | open_ z => exact openStream_inv s z x j h
  | flush z i hp => exact flush_inv s z i hp x j h
  | close z i => exact closeStream_inv s z i x j h
  | deliver z => exact deliver_inv s z x j h
  | consume z i => exact consume_inv s z i x j h
  | moved z i => exact moved_inv s z i x j h

theorem run_inv (s : Sys) (ops : List Op) (x : Side) (j : Nat) (h : Inv s x j) : Inv (run s ops) x j :=
  List.foldlRecOn (motive := fun s => Inv s x j) ops step h fun s hb op _ => step_inv s op x j hb

end

end Mux

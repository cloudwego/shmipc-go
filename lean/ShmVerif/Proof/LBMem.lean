import ShmVerif.Model.Pipe
import ShmVerif.Proof.Lists
/-!
  What the primitives of the buffer manager, of a buffer slice and of the slice list do to the shared memory - `setSlot`,
  `pop`, `recycleBuffer`, `bufferSlice.append`, `bufferSlice.update`, `readNextSlice`, `cleanPinnedList`,
  `ReleasePreviousRead`, the loops of `allocShmBuffers` and of `createBufferManager` - each taken apart once, in terms of
  slots, headers and free lists only; and that giving slots back, up to Close, writes no payload byte.  The byte content of
  a buffer and the invariants of the later files do not appear here.
-/
namespace LB
open List

theorem slot_setSlot (m : Mem) (i j : Nat) (f : MSlot → MSlot) :
    (m.setSlot i f).slot j = if i = j ∧ j < m.slots.length then f (m.slot j) else m.slot j :=
  getD_modify m.slots i j f default

theorem slot_setSlot_ne (m : Mem) {i j : Nat} (f : MSlot → MSlot) (h : i ≠ j) : (m.setSlot i f).slot j = m.slot j := by
  rw [slot_setSlot, if_neg (fun e => h e.1)]

theorem slot_setSlot_self (m : Mem) {i : Nat} (f : MSlot → MSlot) (h : i < m.slots.length) :
    (m.setSlot i f).slot i = f (m.slot i) := by
  rw [slot_setSlot, if_pos ⟨rfl, h⟩]

theorem slot_setSlot_proj {β : Type} (π : MSlot → β) (m : Mem) (i j : Nat) {f : MSlot → MSlot} (hf : ∀ x, π (f x) = π x) :
    π ((m.setSlot i f).slot j) = π (m.slot j) := by
  rw [slot_setSlot]; split
  · exact hf _
  · rfl

theorem setSlot_length (m : Mem) (i : Nat) (f : MSlot → MSlot) : (m.setSlot i f).slots.length = m.slots.length :=
  length_modify ..

/-- geometry: what no operation changes -/
structure Geo (m m' : Mem) : Prop where
  len : m'.slots.length = m.slots.length
  cap : ∀ i, (m'.slot i).cap = (m.slot i).cap
  caps : m'.caps = m.caps
  flen : m'.free.length = m.free.length

theorem Geo.refl (m : Mem) : Geo m m := ⟨rfl, fun _ => rfl, rfl, rfl⟩
theorem Geo.trans {a b c : Mem} (x : Geo a b) (y : Geo b c) : Geo a c :=
  ⟨y.len.trans x.len, fun i => (y.cap i).trans (x.cap i), y.caps.trans x.caps, y.flen.trans x.flen⟩

theorem geo_setSlot (m : Mem) (i : Nat) (f : MSlot → MSlot) (hf : ∀ x, (f x).cap = x.cap) : Geo m (m.setSlot i f) :=
  ⟨setSlot_length m i f, fun j => slot_setSlot_proj (·.cap) m i j hf, rfl, rfl⟩

def heldS (sl : List BS) : List Nat := sl.filterMap (·.slot)

@[simp] theorem heldS_nil : heldS [] = [] := rfl
@[simp] theorem heldS_append (a b : List BS) : heldS (a ++ b) = heldS a ++ heldS b := by simp [heldS]
theorem heldS_cons (s : BS) (r : List BS) : heldS (s :: r) = heldS [s] ++ heldS r := heldS_append [s] r

theorem heldS_singleton {s : BS} {i : Nat} (h : s.slot = some i) : heldS [s] = [i] := by simp [heldS, h]

/-- the slice `readBufferSlice` builds from a slot's header: what `Mem.readSlice` returns (`readSlice_eq`) -/
def reSlice (m1 : Mem) (i : Nat) : BS :=
  { slot := some i, cap := (m1.slot i).cap, start := (m1.slot i).hdr.start, ri := (m1.slot i).hdr.start,
    wi := (m1.slot i).hdr.start + (m1.slot i).hdr.size }

theorem readSlice_eq (m1 : Mem) (i : Nat) (h : i < m1.slots.length) : m1.readSlice i = some (reSlice m1 i) := by
  unfold Mem.readSlice reSlice
  rw [if_pos h]

/-- the popped slot leaves its free list, its header is marked; the slice handed out is what `readBufferSlice` makes of
    that header -/
theorem pop_some {m : Mem} {c : Nat} {m' : Mem} {b : BS} (h : m.pop c = some (m', b)) :
    ∃ i r, m.free[c]? = some (i :: r) ∧
      m' = { m with free := m.free.set c r }.setSlot i (fun x => { x with hdr := { x.hdr with hasNext := false, inUsed := true } }) ∧
      b = reSlice m' i := by
  unfold Mem.pop at h
  split at h
  · rename_i i j r hf
    simp only [Option.some.injEq, Prod.mk.injEq] at h
    refine ⟨i, j :: r, ?_, h.1.symm, h.2.symm ▸ h.1 ▸ rfl⟩
    rw [getD_eq_getElem?_getD] at hf
    cases hh : m.free[c]? with
    | none => rw [hh] at hf; cases hf
    | some v => rw [hh] at hf; exact congrArg some hf
  · cases h

/-- allocShmBuffer: a successful single allocation is a pop from some class -/
theorem allocOne_some {m : Mem} {size : Nat} {m' : Mem} {b : BS} (h : m.allocOne size = some (m', b)) :
    ∃ c, m.pop c = some (m', b) := by
  unfold Mem.allocOne at h
  split at h
  · obtain ⟨c, _, hc⟩ := exists_of_findSome?_eq_some h
    split at hc
    · exact ⟨c, hc⟩
    · cases hc
  · cases h

/-- what either layer (the allocator's invariant, the slot accounting) needs of a pop -/
structure Popped (m m' : Mem) (i : Nat) : Prop where
  perm : m.free.flatten ~ i :: m'.free.flatten
  geo : Geo m m'
  data : ∀ k, (m'.slot k).data = (m.slot k).data
  hdr : ∀ k, k ≠ i → (m'.slot k).hdr = (m.slot k).hdr
  hdrI : i < m.slots.length → (m'.slot i).hdr = { (m.slot i).hdr with hasNext := false, inUsed := true }

theorem pop_popped {m : Mem} {c : Nat} {m' : Mem} {b : BS} (h : m.pop c = some (m', b)) :
    ∃ i, b = reSlice m' i ∧ Popped m m' i := by
  obtain ⟨i, r, hc, rfl, hb⟩ := pop_some h
  exact ⟨i, hb, perm_flatten_set_cons hc,
    ⟨setSlot_length _ _ _, fun k => slot_setSlot_proj (·.cap) _ i k (fun _ => rfl), rfl, length_set ..⟩,
    fun k => slot_setSlot_proj (·.data) _ i k (fun _ => rfl),
    fun k hk => congrArg (·.hdr) (slot_setSlot_ne _ _ (Ne.symm hk)), fun hi => congrArg (·.hdr) (slot_setSlot_self _ _ hi)⟩

/-- nothing for a heap slice (or a capacity no class has); otherwise the header is reset and the slot joins the end of a
    free list -/
theorem recycle_eq (m : Mem) (s : BS) :
    (m.recycle s = m ∧ (s.slot = none ∨ s.cap ∉ m.caps)) ∨ ∃ i c, s.slot = some i ∧ c < m.caps.length ∧
      m.recycle s = { m.setSlot i (fun x => { x with hdr := { x.hdr with size := 0, start := 0, hasNext := false, inUsed := false } }) with
        free := m.free.set c (m.free.getD c [] ++ [i]) } := by
  unfold Mem.recycle
  cases hs : s.slot with
  | none => exact Or.inl ⟨rfl, Or.inl rfl⟩
  | some i =>
    cases hc : (List.range m.caps.length).find? (fun c => m.caps.getD c 0 = s.cap) with
    | none =>
      refine Or.inl ⟨rfl, Or.inr fun hmem => ?_⟩
      obtain ⟨c, hcl, ec⟩ := getElem_of_mem hmem
      exact find?_eq_none.mp hc c (mem_range.mpr hcl) (by simp [getD_eq_getElem?_getD, hcl, ec])
    | some c => exact Or.inr ⟨i, c, rfl, mem_range.mp (mem_of_find?_eq_some hc), rfl⟩

theorem recycle_heap (m : Mem) {s : BS} (h : s.isShm = false) : m.recycle s = m := by
  rcases recycle_eq m s with ⟨e, _⟩ | ⟨i, _, hs, _⟩
  · exact e
  · simp [BS.isShm, hs] at h

theorem recycle_frame (m : Mem) (s : BS) :
    Geo m (m.recycle s) ∧ (∀ k, ((m.recycle s).slot k).data = (m.slot k).data) ∧
      ∀ p, p ∉ heldS [s] → ((m.recycle s).slot p).hdr = (m.slot p).hdr := by
  rcases recycle_eq m s with ⟨e, _⟩ | ⟨i, c, hs, _, e⟩ <;> rw [e]
  · exact ⟨Geo.refl m, fun _ => rfl, fun _ _ => rfl⟩
  · refine ⟨⟨setSlot_length _ _ _, fun k => slot_setSlot_proj (·.cap) m i k (fun _ => rfl), rfl, length_set ..⟩,
      fun k => slot_setSlot_proj (·.data) m i k (fun _ => rfl), fun p hp => congrArg (·.hdr) (slot_setSlot_ne m _ ?_)⟩
    intro e; exact hp (by rw [heldS_singleton hs, e]; exact mem_singleton_self _)

theorem recycle_data (m : Mem) (t : BS) (j : Nat) : ((m.recycle t).slot j).data = (m.slot j).data :=
  (recycle_frame m t).2.1 j

theorem foldl_recycle_data (sl : List BS) : ∀ (m : Mem) (j : Nat), ((sl.foldl (fun m s => m.recycle s) m).slot j).data = (m.slot j).data := by
  induction sl with
  | nil => intro m j; rfl
  | cons a r ih => intro m j; rw [foldl_cons, ih (m.recycle a) j, recycle_data]

theorem lrecycle_data (m : Mem) (l : LBuf) (j : Nat) : ((l.recycle m).1.slot j).data = (m.slot j).data := by
  unfold LBuf.recycle
  simp only
  rw [foldl_recycle_data, foldl_recycle_data]

theorem recycleChain_data : ∀ (fuel : Nat) (m : Mem) (off j : Nat), ((m.recycleChain fuel off).slot j).data = (m.slot j).data
  | 0, _, _, _ => rfl
  | f + 1, m, off, j => by
    unfold Mem.recycleChain
    cases hr : m.readSlice off with
    | none => rfl
    | some s =>
      simp only
      split
      · rw [recycleChain_data f _ _ j, recycle_data]
      · rw [recycle_data]

theorem clearPending_data : ∀ (ws : List Wrap) (m : Mem) (j : Nat), ((clearPending m ws).slot j).data = (m.slot j).data
  | [], _, _ => rfl
  | w :: ws, m, j => (clearPending_data ws (clear1 m w) j).trans (by
    cases w with
    | fb s => rfl
    | shm off => exact recycleChain_data _ m off j)

theorem closeStream_data (m : Mem) (X : StreamM) (j : Nat) : ((closeStream m X).slot j).data = (m.slot j).data := by
  unfold closeStream
  simp only
  rw [lrecycle_data, lrecycle_data, clearPending_data]

/-- heap slice or shared-memory slice alike: the chunk that fits is written at the write index of the slice's own bytes;
    no header, no capacity, no free list and no other slot changes -/
theorem BS.append_eq {m m1 : Mem} {s s1 : BS} {d : List Nat} {k : Nat} (e : s.append m d = (m1, s1, k)) :
    k = min d.length (s.cap - s.wi) ∧
    (s1.slot = s.slot ∧ s1.ri = s.ri ∧ s1.wi = s.wi + k ∧ s1.cap = s.cap ∧ s1.start = s.start) ∧
    ((∀ i, s.slot = some i → i < m.slots.length) → s1.bytes m1 = writeAt (s.bytes m) s.wi (d.take k)) ∧
    m1.free = m.free ∧ m1.slots.length = m.slots.length ∧ m1.caps = m.caps ∧
    (∀ j, m1.slot j = if s.slot = some j ∧ j < m.slots.length
      then { (m.slot j) with data := writeAt (m.slot j).data s.wi (d.take k) } else m.slot j) := by
  unfold BS.append at e
  cases hs : s.slot with
  | none =>
    rw [hs] at e; cases e
    exact ⟨rfl, ⟨rfl, rfl, rfl, rfl, rfl⟩, fun _ => by simp only [BS.bytes, hs], rfl, rfl, rfl, fun _ => by simp⟩
  | some i =>
    rw [hs] at e; cases e
    refine ⟨rfl, ⟨rfl, rfl, rfl, rfl, rfl⟩, fun hlt => ?_, rfl, setSlot_length _ _ _, rfl, fun j => ?_⟩
    · simp only [BS.bytes, hs]
      rw [slot_setSlot_self m _ (hlt i rfl)]
    · simp only [Option.some.injEq]
      exact slot_setSlot m i j _

theorem writeAt_length (l : List Nat) (a : Nat) (d : List Nat) (h : a + d.length ≤ l.length) :
    (writeAt l a d).length = l.length := length_splice l d h

theorem writeAt_window (l : List Nat) (a r : Nat) (d : List Nat) (hr : r ≤ a) (h : a + d.length ≤ l.length) :
    ((writeAt l a d).drop r).take (a + d.length - r) = (l.drop r).take (a - r) ++ d := window_splice l d hr h

theorem writeAt_nil (l : List Nat) (a : Nat) : writeAt l a [] = l := by
  simp [writeAt]

theorem BS.append_full {m m1 : Mem} {s s1 : BS} {d : List Nat} (e : s.append m d = (m1, s1, 0)) : s1 = s := by
  have hk : min d.length (s.cap - s.wi) = 0 := (BS.append_eq e).1.symm
  unfold BS.append at e
  cases hs : s.slot with
  | none =>
    simp only [hs, hk, take_zero, writeAt_nil, Nat.add_zero, Prod.mk.injEq] at e
    rw [← e.2.1, ← hs]
  | some i =>
    simp only [hs, hk, Nat.add_zero, Prod.mk.injEq] at e
    rw [← e.2.1, ← hs]

theorem readNext_nil (m : Mem) {l : LBuf} (h : l.sl = []) : l.readNext m = none := by
  unfold LBuf.readNext; rw [h]

/-- readNextSlice: a shared-memory slice that has handed out a view is parked, any other goes back (`recycle` ignores
    heap slices) -/
theorem readNext_eq {m : Mem} {l : LBuf} {s : BS} {r : List BS} (hsl : l.sl = s :: r) :
    ∃ l', ((l.readNext m = some (m, l') ∧ l'.pinned = l.pinned ++ [s]) ∨
       (¬ (s.isShm = true ∧ l.curPinned = true) ∧ l.readNext m = some (m.recycle s, l') ∧ l'.pinned = l.pinned)) ∧
      l'.sl = r ∧ l'.len = l.len := by
  unfold LBuf.readNext
  rw [hsl]
  simp only
  by_cases hshm : s.isShm = true
  · by_cases hp : l.curPinned = true
    · rw [if_pos hshm, if_pos hp]; exact ⟨_, Or.inl ⟨rfl, rfl⟩, rfl, rfl⟩
    · rw [if_pos hshm, if_neg hp]; exact ⟨_, Or.inr ⟨fun h => hp h.2, rfl, rfl⟩, rfl, rfl⟩
  · rw [if_neg hshm, recycle_heap m (Bool.eq_false_iff.mpr hshm)]; exact ⟨_, Or.inr ⟨fun h => hshm h.1, rfl, rfl⟩, rfl, rfl⟩

theorem cleanPinned_eq (m : Mem) (l : LBuf) :
    (l.cleanPinned m).1 = l.pinned.foldl (fun m s => m.recycle s) m ∧ (l.cleanPinned m).2.pinned = [] ∧
      (l.cleanPinned m).2.sl = l.sl ∧ (l.cleanPinned m).2.len = l.len := by
  unfold LBuf.cleanPinned
  split
  · have e : l.pinned = [] := isEmpty_iff.mp ‹_›
    exact ⟨by rw [e]; rfl, e, rfl, rfl⟩
  · exact ⟨rfl, rfl, rfl, rfl⟩

/-- ReleasePreviousRead: cleanPinnedList, then a used-up front slice that is also the write slice goes back too -/
theorem release_eq (m : Mem) (l : LBuf) :
    (l.release m).2.pinned = [] ∧ (l.release m).2.len = l.len ∧
    (((l.release m).1 = (l.cleanPinned m).1 ∧ (l.release m).2.sl = l.sl) ∨
      ∃ f, f.size = 0 ∧ l.sl = f :: (l.release m).2.sl ∧ (l.release m).1 = (l.cleanPinned m).1.recycle f) := by
  obtain ⟨_, h2, h3, h4⟩ := cleanPinned_eq m l
  unfold LBuf.release
  rcases hc : l.cleanPinned m with ⟨m1, l1⟩
  rw [hc] at h2 h3 h4
  simp only at h2 h3 h4 ⊢
  cases hsl : l1.sl with
  | nil => exact ⟨h2, h4, Or.inl ⟨rfl, by rw [← h3, hsl]⟩⟩
  | cons f r =>
    simp only
    split
    · exact ⟨h2, h4, Or.inr ⟨f, (‹_› : _ ∧ _).1, by rw [← h3, hsl], rfl⟩⟩
    · exact ⟨h2, h4, Or.inl ⟨rfl, by rw [← h3, hsl]⟩⟩

theorem release_cases (m : Mem) (l : LBuf) :
    (l.release m).2.pinned = [] ∧ (l.release m).2.len = l.len ∧ (∀ j, ((l.release m).1.slot j).data = (m.slot j).data) ∧
    ((l.release m).2.sl = l.sl ∨ ∃ f, f.size = 0 ∧ l.sl = f :: (l.release m).2.sl) := by
  have hd := foldl_recycle_data l.pinned m
  obtain ⟨hp, hl, ⟨e1, e2⟩ | ⟨f, hz, e2, e1⟩⟩ := release_eq m l
  · exact ⟨hp, hl, fun j => by rw [e1, (cleanPinned_eq m l).1]; exact hd j, Or.inl e2⟩
  · exact ⟨hp, hl, fun j => by rw [e1, recycle_data, (cleanPinned_eq m l).1]; exact hd j, Or.inr ⟨f, hz, e2⟩⟩

/-- the header `bufferSlice.update` writes, as a function of the old one: the two record updates of `updateHdr`
    (`updateHdr_eq`, by `rfl` in either case) -/
def hdrUpd (s : BS) (next : Option BS) (h : Hdr) : Hdr :=
  match next with
  | some n => { h with size := s.size, start := s.start, next := n.slot.getD 0, hasNext := true }
  | none => { h with size := s.size, start := s.start }

theorem updateHdr_eq (m : Mem) (s : BS) (next : Option BS) :
    updateHdr m s next = match s.slot with
      | none => m
      | some i => m.setSlot i (fun x => { x with hdr := hdrUpd s next x.hdr }) := by
  unfold updateHdr hdrUpd
  cases s.slot with
  | none => rfl
  | some i => cases next <;> rfl

/-- what `bufferSlice.update` does to the memory: only the header of the slice's own slot changes (for a heap slice nothing);
    no slot moves -/
theorem updateHdr_spec (m : Mem) (s : BS) (nx : Option BS) :
    Geo m (updateHdr m s nx) ∧ (updateHdr m s nx).free = m.free ∧
    (∀ j, ((updateHdr m s nx).slot j).data = (m.slot j).data) ∧
    (∀ p, p ∉ heldS [s] → ((updateHdr m s nx).slot p).hdr = (m.slot p).hdr) ∧
    ∀ i, s.slot = some i → i < m.slots.length → ((updateHdr m s nx).slot i).hdr = hdrUpd s nx (m.slot i).hdr := by
  rw [updateHdr_eq]
  cases hsl : s.slot with
  | none => exact ⟨Geo.refl m, rfl, fun _ => rfl, fun _ _ => rfl, fun _ h => nomatch h⟩
  | some i =>
    refine ⟨geo_setSlot m i _ (fun _ => rfl), rfl, fun j => slot_setSlot_proj (·.data) m i j (fun _ => rfl),
      fun p hp => congrArg (·.hdr) (slot_setSlot_ne m _ fun e => hp ?_), fun j hj hl => ?_⟩
    · rw [heldS_singleton hsl, e]; exact mem_singleton_self _
    · cases hj; exact congrArg (·.hdr) (slot_setSlot_self m _ hl)

/-- the function `LBuf.done` folds over the slice indices; `done_spec` and `done_acct` put it in place of the model's lambda,
    by `rfl` and by `change` -/
def doneStep (l : LBuf) (m : Mem) (i : Nat) : Mem :=
  match l.sl[i]? with
  | some s => updateHdr m s l.sl[i + 1]?
  | none => m

/-- allocShmBuffers only ever pops, and only while bytes remain uncovered: whatever one such pop preserves, the whole
    batch preserves.  Both the allocator's invariant and the slot accounting go through these two loops by this rule. -/
theorem allocMany_cls_inv (I : Mem → List BS → Nat → Int → Prop)
    (step : ∀ m c m' b acc got remain, I m acc got remain → 0 < remain → m.pop c = some (m', b) →
      I m' (acc ++ [b]) (got + b.cap) (remain - b.cap)) :
    ∀ (fuel : Nat) (m : Mem) (c : Nat) (remain : Int) (acc : List BS) (got : Nat), I m acc got remain →
      I (Mem.allocMany.cls fuel m c remain acc got).1 (Mem.allocMany.cls fuel m c remain acc got).2.1
        (Mem.allocMany.cls fuel m c remain acc got).2.2.1 (Mem.allocMany.cls fuel m c remain acc got).2.2.2 := by
  intro fuel
  induction fuel with
  | zero => intro m c remain acc got h; exact h
  | succ f ih =>
    intro m c remain acc got h
    unfold Mem.allocMany.cls
    split
    · rename_i hpos
      cases hp : m.pop c with
      | none => exact h
      | some r => exact ih _ c _ _ _ (step m c r.1 r.2 acc got remain h hpos hp)
    · exact h

theorem allocMany_down_inv (I : Mem → List BS → Nat → Int → Prop)
    (step : ∀ m c m' b acc got remain, I m acc got remain → 0 < remain → m.pop c = some (m', b) →
      I m' (acc ++ [b]) (got + b.cap) (remain - b.cap)) :
    ∀ (k : Nat) (m : Mem) (remain : Int) (acc : List BS) (got : Nat), I m acc got remain →
      ∃ r', I (Mem.allocMany.down k m remain acc got).1 (Mem.allocMany.down k m remain acc got).2.1
        (Mem.allocMany.down k m remain acc got).2.2 r' := by
  intro k
  induction k with
  | zero => intro m remain acc got h; exact ⟨remain, h⟩
  | succ c ih =>
    intro m remain acc got h
    unfold Mem.allocMany.down
    split
    · exact ih _ _ _ _ (allocMany_cls_inv I step (m.slots.length + 1) m c remain acc got h)
    · exact ⟨remain, h⟩

/-- the one induction over createBufferManager's loop: every slot is laid out with its class's capacity, a payload of that
    length and an empty header; class after class the free lists enumerate the slots -/
theorem create_go_inv : ∀ (cs : List (Nat × Nat)) (ci base : Nat) (slots : List MSlot) (free : List (List Nat)),
    base = slots.length → free.flatten = List.range base → (∀ c ∈ cs, 0 < c.1) →
    (∀ x ∈ (Mem.create.go cs ci base slots free).1,
      x ∈ slots ∨ x.data.length = x.cap ∧ x.hdr = {} ∧ 0 < x.cap ∧ x.cap ∈ cs.map (·.1)) ∧
    (Mem.create.go cs ci base slots free).2.flatten = List.range (Mem.create.go cs ci base slots free).1.length ∧
    (Mem.create.go cs ci base slots free).2.length = free.length + cs.length
  | [], ci, base, slots, free, hb, hf, _ => by
    unfold Mem.create.go
    exact ⟨fun x hx => Or.inl hx, by rw [hf, hb], rfl⟩
  | (cap, n) :: r, ci, base, slots, free, hb, hf, hp => by
    unfold Mem.create.go
    obtain ⟨h1, h2, h3⟩ := create_go_inv r (ci + 1) (base + n)
      (slots ++ List.replicate n { cap, cls := ci, data := List.replicate cap 0 }) (free ++ [(List.range n).map (· + base)])
      (by simp [hb]) (by
        rw [flatten_append, hf, flatten_singleton, range_add]
        exact congrArg _ (map_congr_left fun a _ => Nat.add_comm _ _)) (fun c hc => hp c (mem_cons_of_mem _ hc))
    refine ⟨fun x hx => ?_, h2, by rw [h3, length_append, length_singleton, length_cons]; omega⟩
    rcases h1 x hx with h | ⟨a, b, c, d⟩
    · rcases mem_append.mp h with h | h
      · exact Or.inl h
      · rw [eq_of_mem_replicate h]
        exact Or.inr ⟨length_replicate .., rfl, hp (cap, n) mem_cons_self, mem_cons_self⟩
    · exact Or.inr ⟨a, b, c, mem_cons_of_mem _ d⟩

theorem create_facts (classes : List (Nat × Nat)) (hpos : ∀ c ∈ classes, 0 < c.1) :
    (∀ i, i < (Mem.create classes).slots.length → ((Mem.create classes).slot i).data.length = ((Mem.create classes).slot i).cap ∧
      ((Mem.create classes).slot i).hdr = {} ∧ 0 < ((Mem.create classes).slot i).cap ∧
      ((Mem.create classes).slot i).cap ∈ (Mem.create classes).caps) ∧
    (Mem.create classes).free.flatten = List.range (Mem.create classes).slots.length ∧
    (Mem.create classes).free.length = (Mem.create classes).caps.length := by
  have h := create_go_inv classes 0 0 [] [] rfl rfl hpos
  unfold Mem.create
  rcases hg : Mem.create.go classes 0 0 [] [] with ⟨slots, free⟩
  rw [hg] at h
  refine ⟨fun i hi => ?_, h.2.1, by simpa using h.2.2⟩
  have hi' : i < slots.length := hi
  have : ({ slots := slots, free := free, caps := classes.map (·.1) } : Mem).slot i = slots[i] := by
    simp [Mem.slot, getD_eq_getElem?_getD, hi']
  rw [this]
  exact (h.1 _ (getElem_mem hi')).resolve_left (not_mem_nil)

end LB
